import Rip.Model.Secrets
/-!
C19 lemmas: non-interference of secret values. Merging is a fold of `insertSorted` and `lookup`, which
commute with any renaming of the values; `resolve` commutes with a blank-preserving renaming, `let`
by `let` (`nonBlank_map` is where blank-preservation is used). On the renamed resolution diagnostics
and run records see no difference and the wire carries exactly the renamed secrets.
-/
namespace Rip.Secrets

theorem foldl_map_hom {α β α' β' : Type} (φ : α → α') (ψ : β → β') {op : α → β → α}
    {op' : α' → β' → α'} (H : ∀ a b, op' (φ a) (ψ b) = φ (op a b)) (l : List β) (a : α) :
    (l.map ψ).foldl op' (φ a) = φ (l.foldl op a) := by
  rw [List.foldl_map]
  exact List.foldl_hom φ H

/-! ### merging commutes with any renaming of the values -/

theorem insertSorted_map {α β : Type} (g : α → β) (k : Nat) (v : α) (l : List (Nat × α)) :
    insertSorted k (g v) (l.map (fun e => (e.1, g e.2))) =
    (insertSorted k v l).map (fun e => (e.1, g e.2)) := by
  -- on the renamed `cons` the left side is by computation the same `if` ladder
  fun_induction insertSorted k v l with
  | case1 => rfl
  | case2 k' v' rest hlt => exact if_pos hlt
  | case3 v' rest hlt => exact (if_neg hlt).trans (if_pos rfl)
  | case4 k' v' rest hlt hne ih => exact (if_neg hlt).trans ((if_neg hne).trans (congrArg _ ih))

theorem lookup_map {α β : Type} (g : α → β) (k : Nat) (l : List (Nat × α)) :
    lookup k (l.map (fun e => (e.1, g e.2))) = (lookup k l).map g := by
  unfold lookup
  rw [List.find?_map, Option.map_map, Option.map_map]
  rfl

theorem mergeHeaders_map (f : Secret → Secret) (base over : List (Nat × Secret)) :
    mergeHeaders (base.map (fun h => (h.1, f h.2))) (over.map (fun h => (h.1, f h.2))) =
    (mergeHeaders base over).map (fun h => (h.1, f h.2)) :=
  foldl_map_hom _ _ (fun acc e => insertSorted_map f e.1 e.2 acc) over base

theorem mergeProvider_mapS (f : Secret → Secret) (base over : PProvider) :
    mergeProvider (base.mapS f) (over.mapS f) = (mergeProvider base over).mapS f := by
  simp only [mergeProvider, PProvider.mapS, mergeHeaders_map, Option.map_or]

theorem mergeProviders_mapS (f : Secret → Secret) (base over : List (Nat × PProvider)) :
    mergeProviders (base.map (fun e => (e.1, e.2.mapS f))) (over.map (fun e => (e.1, e.2.mapS f))) =
    (mergeProviders base over).map (fun e => (e.1, e.2.mapS f)) := by
  refine foldl_map_hom _ _ (fun acc e => ?_) over base
  simp only [lookup_map]
  cases lookup e.1 acc with
  | none => exact insertSorted_map (PProvider.mapS f) e.1 e.2 acc
  | some b =>
    simp only [Option.map_some, mergeProvider_mapS]
    exact insertSorted_map (PProvider.mapS f) e.1 _ acc

theorem mergeLayer_mapS (f : Secret → Secret) (base over : Layer) :
    mergeLayer (base.mapS f) (over.mapS f) = (mergeLayer base over).mapS f := by
  simp only [mergeLayer, Layer.mapS, mergeProviders_mapS]

theorem mergeAll_mapS (f : Secret → Secret) (layers : List Layer) :
    mergeAll (layers.map (Layer.mapS f)) = (mergeAll layers).mapS f :=
  foldl_map_hom _ _ (mergeLayer_mapS f) layers {}

/-! ### resolution commutes with a blank-preserving renaming -/

def Resolved.mapS (f : Secret → Secret) (r : Resolved) : Resolved :=
  { r with apiKey := r.apiKey.map f, headers := r.headers.map (fun h => (h.1, f h.2)) }

theorem nonBlank_map (f : Secret → Secret) (hf : KeepsBlank f) (o : Option Secret) :
    nonBlank (o.map f) = (nonBlank o).map f := by
  have test (s : Secret) : (f s != 0) = (s != 0) := by
    rw [Bool.eq_iff_iff, bne_iff_ne, bne_iff_ne]
    exact not_congr (hf s)
  unfold nonBlank
  rw [Option.filter_map, show (· != 0) ∘ f = (· != 0) from funext test]

theorem KeySrc.resolve_mapS (f : Secret → Secret) (hf : KeepsBlank f) (env : Env) (src : KeySrc) :
    (src.mapS f).resolve (env.mapS f) = (src.resolve env).map f := by
  cases src with
  | inline v => exact nonBlank_map f hf (some v)
  | env n =>
    simp only [KeySrc.mapS, KeySrc.resolve, Env.mapS]
    rw [lookup_map f n env.named, nonBlank_map f hf]

theorem KeySrc.source_mapS (f : Secret → Secret) (src : KeySrc) :
    (src.mapS f).source = src.source := by
  cases src <;> rfl

theorem keyFromEnv_mapS (f : Secret → Secret) (hf : KeepsBlank f) (env : Env) (ep : Endpoint) :
    keyFromEnv (env.mapS f) ep = ((keyFromEnv env ep).1.map f, (keyFromEnv env ep).2) := by
  unfold keyFromEnv
  simp only [Env.mapS, nonBlank_map f hf]
  cases nonBlank env.ripKey with
  | some k => rfl
  | none =>
    cases ep.openai
    · cases ep.openrouter <;> rfl
    · rfl

/-- each `let` of `resolve` on the renamed configuration (primed) is the renaming of the same `let` on
the original -/
theorem resolve_mapS (f : Secret → Secret) (hf : KeepsBlank f) (cfg : Layer) (env : Env) (ov : Override) :
    resolve (cfg.mapS f) (env.mapS f) ov = (resolve cfg env ov).map (Resolved.mapS f) := by
  unfold resolve
  -- the `let`s become local definitions; `cases` on one of them rewrites the goal only, not the
  -- bodies of the definitions built on it, so those are unfolded in the goal before the `cases`
  extract_lets route' rp' endpoint' route rp endpoint
  have hrp : rp' = rp.map (PProvider.mapS f) := by
    simp only [rp', rp, Layer.mapS, lookup_map, Option.map_bind]
    rfl
  have hep : endpoint' = endpoint := by
    simp only [endpoint', hrp, Option.bind_map]
    rfl
  rw [hep]
  cases endpoint with
  | none => rfl
  | some ep =>
    -- `-zeta` keeps the `let`s under the `match` for the second `extract_lets`
    dsimp -zeta only
    extract_lets pm' headers' fromCfg' pm headers fromCfg
    have hpm : pm' = pm.map (fun p => (p.1, p.2.mapS f)) := by
      simp only [pm', pm, route', route, Layer.mapS, lookup_map, List.find?_map]
      split
      · rw [Option.map_map, Option.map_map]
        rfl
      · rfl
    have hh : headers' = headers.map (fun h => (h.1, f h.2)) := by
      simp only [headers', headers, hpm]
      cases pm <;> rfl
    have hc : fromCfg' = (fromCfg.1.map f, fromCfg.2) := by
      have : pm'.bind (·.2.apiKey) = (pm.bind (·.2.apiKey)).map (KeySrc.mapS f) := by
        rw [hpm]
        cases pm <;> rfl
      simp only [fromCfg', fromCfg, this]
      cases pm.bind (·.2.apiKey) with
      | none => rfl
      | some src => simp only [Option.map_some, KeySrc.resolve_mapS f hf, KeySrc.source_mapS]
    -- the environment is asked when the configured key is absent or blank, on both sides alike
    simp only [hc, hh, hpm, keyFromEnv_mapS f hf, Option.isNone_map, Option.map_some, Resolved.mapS,
      Option.map_map]
    cases fromCfg.1.isNone <;> rfl

/-! ### what the three observers see -/

theorem doctor_mapS (f : Secret → Secret) (hf : KeepsBlank f) (r : Resolved) :
    doctor (r.mapS f) = doctor r := by
  simp only [doctor, Resolved.mapS, nonBlank_map f hf, Option.isSome_map, List.map_map]
  rfl

theorem recorded_mapS (f : Secret → Secret) (r : Resolved) : recorded (r.mapS f) = recorded r := rfl

theorem wire_mapS (f : Secret → Secret) (r : Resolved) :
    wire (r.mapS f) = ((wire r).1.map f, (wire r).2.map (fun h => (h.1, f h.2))) := rfl

/-- What an observer of the resolved configuration sees on renamed layers and environment is what it
sees on the renamed resolution. `doctor` and `recorded` do not see the renaming there, so they do not
see it at all: non-interference. `wire` sees exactly the renamed secrets. -/
theorem observed_mapS {β : Type} {obs obs' : Resolved → β} (f : Secret → Secret) (hf : KeepsBlank f)
    (hobs : ∀ r, obs (r.mapS f) = obs' r) (layers : List Layer) (env : Env) (ov : Override) :
    (resolve (mergeAll (layers.map (Layer.mapS f))) (env.mapS f) ov).map obs =
    (resolve (mergeAll layers) env ov).map obs' := by
  rw [mergeAll_mapS, resolve_mapS f hf, Option.map_map]
  exact congrArg (Option.map · _) (funext hobs)

/-! ### a resolved key is never blank -/

theorem nonBlank_eq_some_iff (o : Option Secret) (k : Secret) :
    nonBlank o = some k ↔ o = some k ∧ k ≠ 0 := by
  rw [nonBlank, Option.filter_eq_some_iff, bne_iff_ne]

theorem nonBlank_ne_blank (o : Option Secret) : nonBlank o ≠ some 0 := by
  intro h
  exact ((nonBlank_eq_some_iff o 0).1 h).2 rfl

theorem nonBlank_eq_self {o : Option Secret} (h : o ≠ some 0) : nonBlank o = o := by
  cases o with
  | none => rfl
  | some v => exact if_pos (bne_iff_ne.mpr fun hv => h (congrArg some hv))

theorem keyFromEnv_ne_blank (env : Env) (ep : Endpoint) : (keyFromEnv env ep).1 ≠ some 0 := by
  unfold keyFromEnv
  cases h : nonBlank env.ripKey with
  | some k => exact fun hk => nonBlank_ne_blank env.ripKey (h.trans hk)
  | none =>
    cases ep.openai
    · cases ep.openrouter
      · nofun
      · exact nonBlank_ne_blank _
    · exact nonBlank_ne_blank _

theorem KeySrc.resolve_ne_blank (env : Env) (src : KeySrc) : src.resolve env ≠ some 0 := by
  cases src <;> exact nonBlank_ne_blank _

theorem key_never_blank (cfg : Layer) (env : Env) (ov : Override) (r : Resolved)
    (h : resolve cfg env ov = some r) : r.apiKey ≠ some 0 := by
  revert h
  fun_cases resolve cfg env ov
  case case1 => nofun
  case case2 route rp endpoint ep hep pm headers fromCfg key source hk =>
    rintro ⟨rfl⟩
    show (key, source).1 ≠ some 0
    rw [← hk]
    split
    · exact keyFromEnv_ne_blank env ep
    · simp only [fromCfg]
      cases pm.bind (·.2.apiKey) with
      | none => nofun
      | some src => exact KeySrc.resolve_ne_blank env src

/-- the blank test of `doctor` changes nothing on a resolved key -/
theorem present_iff_some_key (cfg : Layer) (env : Env) (ov : Override) (r : Resolved)
    (h : resolve cfg env ov = some r) :
    (doctor r).hasApiKey = true ↔ (wire r).1.isSome = true := by
  show (nonBlank r.apiKey).isSome = true ↔ r.apiKey.isSome = true
  rw [nonBlank_eq_self (key_never_blank cfg env ov r h)]

/-! ### non-vacuity checks -/

section Examples

private def ep10 : Endpoint := { id := 10, openai := false, openrouter := false }

/-- layer 1: provider 1 with an inline key 7, routed as primary; layer 2 overrides the key by `{"env": 3}` -/
private def exLayers : List Layer :=
  [ { providers := [(1, { endpoint := some ep10, apiKey := some (.inline 7), headers := [(1, 11), (3, 13)] })],
      primary := some (1, 5) },
    { providers := [(1, { apiKey := some (.env 3), headers := [(2, 22), (3, 33)] })] } ]

private def exEnv : Env := { named := [(3, 42)] }

/-- the env reference overrides the inline key; diagnostics show presence and source, never the value;
the wire carries the value of the variable and the headers merged from both layers -/
example :
    (resolve (mergeAll exLayers) exEnv {}).map doctor =
      some { providerId := some 1, endpoint := 10, model := some 5, hasApiKey := true,
             source := some (.envNamed 3), headerNames := [1, 2, 3] } ∧
    (resolve (mergeAll exLayers) exEnv {}).map wire = some (some 42, [(1, 11), (2, 22), (3, 33)]) ∧
    (resolve (mergeAll exLayers) exEnv {}).map recorded = some (10, some 5) := by decide

/-- headers merged from two layers: the later layer wins on a clash, the result stays sorted -/
example :
    (mergeAll exLayers).providers =
      [(1, { endpoint := some ep10, apiKey := some (.env 3), headers := [(1, 11), (2, 22), (3, 33)] })] := by
  decide

/-- the provider key is blank (inline 0): the RIP_OPENRESPONSES_API_KEY fallback is used -/
example :
    let cfg : Layer := { providers := [(1, { endpoint := some ep10, apiKey := some (.inline 0) })],
                         model := some (1, 5) }
    let env : Env := { ripKey := some 9, openaiKey := some 8 }
    (resolve (mergeAll [cfg]) env {}).map (fun r => ((doctor r).hasApiKey, (doctor r).source, (wire r).1)) =
      some (true, some .envRip, some 9) := by decide

/-- the env variable referenced is unset, the endpoint is an openai one: OPENAI_API_KEY is used; with
no key at all diagnostics say "absent" and nothing goes on the wire -/
example :
    let epo : Endpoint := { id := 20, openai := true, openrouter := false }
    let cfg : Layer := { providers := [(4, { endpoint := some epo, apiKey := some (.env 3) })] }
    (resolve (mergeAll [cfg]) { endpoint := some epo, openaiKey := some 8 } {}).map
        (fun r => ((doctor r).providerId, (doctor r).hasApiKey, (doctor r).source, (wire r).1)) =
      some (some 4, true, some .envOpenAI, some 8) ∧
    (resolve (mergeAll [cfg]) { endpoint := some epo, openaiKey := some 0 } {}).map
        (fun r => ((doctor r).hasApiKey, (doctor r).source, (wire r).1)) =
      some (false, some .envOpenAI, none) := by decide

/-- a concrete instance of the renaming `s ↦ 2 * s` (which keeps blanks): same diagnostics, renamed wire -/
example :
    (resolve (mergeAll (exLayers.map (Layer.mapS (2 * ·)))) (exEnv.mapS (2 * ·)) {}).map doctor =
      (resolve (mergeAll exLayers) exEnv {}).map doctor ∧
    (resolve (mergeAll (exLayers.map (Layer.mapS (2 * ·)))) (exEnv.mapS (2 * ·)) {}).map wire =
      some (some 84, [(1, 22), (2, 44), (3, 66)]) := by decide

/-- the hypothesis `KeepsBlank` is needed: blanking every secret is visible to diagnostics (presence
and source change), so `Rip.Props.C19.doctor_blind` fails for `f = fun _ => 0` -/
example :
    (resolve (mergeAll (exLayers.map (Layer.mapS (fun _ => 0)))) (exEnv.mapS (fun _ => 0)) {}).map doctor ≠
      (resolve (mergeAll exLayers) exEnv {}).map doctor := by decide

end Examples

end Rip.Secrets
