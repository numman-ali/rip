import Rip.Model.WsLTS
import Rip.Lemmas.Basic
/-!
The workspace-lock LTS of `Rip.Model.WsLTS` with the repair (`kill = true`). One invariant `Inv` ties
`running`, `mutOrder` and `sideFx` to the program counter of the permit holder; a move is either
outside the critical section or the holder's, and `Inv` survives both. The safety statements of C11
read `Inv` off; completion is by the decreasing `measure`.
-/

namespace Rip.WsLTS
open Rip.Basic

/-! ### what a program counter means -/

/-- the actor holds the permit: it is past the acquire of a mutating op -/
def inCrit (a : A) : Bool :=
  match a.prog with
  | .mutate _ _ :: _ => decide (1 ≤ a.pc)
  | _ => false

/-- the mutation of a linked run has begun and its side-effects frame is not yet written -/
def midLinked (a : A) : Bool :=
  match a.prog with
  | .mutate _ true :: _ => decide (2 ≤ a.pc ∧ a.pc ≤ 4)
  | _ => false

@[simp] theorem inCrit_mut (c l : Bool) (rest : List Op) (pc opNo : Nat) :
    inCrit ⟨.mutate c l :: rest, pc, opNo⟩ = decide (1 ≤ pc) := rfl

@[simp] theorem midLinked_mut (c l : Bool) (rest : List Op) (pc opNo : Nat) :
    midLinked ⟨.mutate c l :: rest, pc, opNo⟩ = (l && decide (2 ≤ pc ∧ pc ≤ 4)) := by
  cases l <;> rfl

@[simp] theorem inCrit_ro (rest : List Op) (pc opNo : Nat) :
    inCrit ⟨.readOnly :: rest, pc, opNo⟩ = false := rfl

@[simp] theorem inCrit_zero (prog : List Op) (opNo : Nat) : inCrit ⟨prog, 0, opNo⟩ = false := by
  unfold inCrit
  split <;> rfl

/-- the effect that is in progress according to the program counters -/
def runOf (h : Option Nat) (as : List A) : List (Nat × Nat) :=
  match h with
  | none => []
  | some i =>
    match as[i]? with
    | none => []
    | some a => if a.pc = 2 then [(i, a.opNo)] else []

/-- the linked mutation that began and whose side-effects frame is still to come -/
def pendOf (h : Option Nat) (as : List A) : List (Nat × Nat) :=
  match h with
  | none => []
  | some i =>
    match as[i]? with
    | none => []
    | some a => if midLinked a then [(i, a.opNo)] else []

theorem runOf_get {as : List A} {i : Nat} {a : A} (h : as[i]? = some a) :
    runOf (some i) as = if a.pc = 2 then [(i, a.opNo)] else [] := by
  simp only [runOf, h]

theorem pendOf_get {as : List A} {i : Nat} {a : A} (h : as[i]? = some a) :
    pendOf (some i) as = if midLinked a then [(i, a.opNo)] else [] := by
  simp only [pendOf, h]

theorem runOf_self {as : List A} {i : Nat} {a a' : A} (h : as[i]? = some a) :
    runOf (some i) (as.set i a') = if a'.pc = 2 then [(i, a'.opNo)] else [] :=
  runOf_get (getElem?_set_self_of_some a' h)

theorem pendOf_self {as : List A} {i : Nat} {a a' : A} (h : as[i]? = some a) :
    pendOf (some i) (as.set i a') = if midLinked a' then [(i, a'.opNo)] else [] :=
  pendOf_get (getElem?_set_self_of_some a' h)

theorem runOf_other {as : List A} {i : Nat} {a' : A} {h : Option Nat} (hne : h ≠ some i) :
    runOf h (as.set i a') = runOf h as := by
  cases h with
  | none => rfl
  | some j =>
    have : i ≠ j := fun e => hne (by rw [e])
    simp only [runOf, List.getElem?_set_ne this]

theorem pendOf_other {as : List A} {i : Nat} {a' : A} {h : Option Nat} (hne : h ≠ some i) :
    pendOf h (as.set i a') = pendOf h as := by
  cases h with
  | none => rfl
  | some j =>
    have : i ≠ j := fun e => hne (by rw [e])
    simp only [pendOf, List.getElem?_set_ne this]

theorem runOf_length_le (h : Option Nat) (as : List A) : (runOf h as).length ≤ 1 := by
  fun_cases runOf h as
  case case3 => exact Nat.le_refl 1
  all_goals exact Nat.zero_le 1

theorem runOf_mem {h : Option Nat} {as : List A} {p : Nat × Nat} (hp : p ∈ runOf h as) :
    h = some p.1 ∧ ∃ a, as[p.1]? = some a ∧ a.pc = 2 ∧ a.opNo = p.2 := by
  revert hp
  fun_cases runOf h as
  case case3 i a ha hpc =>
    intro hp
    cases List.mem_singleton.1 hp
    exact ⟨rfl, a, ha, hpc, rfl⟩
  all_goals exact (absurd · List.not_mem_nil)

/-! ### the invariant -/

structure Inv (s : S) : Prop where
  /-- whoever is inside a critical section holds the permit (hence at most one actor is) -/
  h1 : ∀ i a, s.as[i]? = some a → inCrit a = true → s.holder = some i
  /-- the permit is held only by an actor inside its critical section -/
  h2 : ∀ i, s.holder = some i → ∃ a, s.as[i]? = some a ∧ inCrit a = true
  /-- exactly the holder's effect is in progress, exactly between its begin and its end -/
  rn : s.running = runOf s.holder s.as
  mx : s.maxRunning ≤ 1
  /-- the mutation order is the frame order plus the one mutation still awaiting its frame -/
  pd : s.mutOrder = s.sideFx ++ pendOf s.holder s.as
  /-- call numbers in the mutation order are in the actor's past, or its current began call -/
  mo : ∀ j k, (j, k) ∈ s.mutOrder →
    ∃ a, s.as[j]? = some a ∧ (k < a.opNo ∨ (k = a.opNo ∧ 2 ≤ a.pc))
  /-- a frame belongs to a past call, or to the current one whose frame step is done -/
  sf : ∀ j k, (j, k) ∈ s.sideFx →
    ∃ a, s.as[j]? = some a ∧ (k < a.opNo ∨ (k = a.opNo ∧ 5 ≤ a.pc ∧ inCrit a = true))
  nd : s.mutOrder.Nodup

theorem init_as {progs : List (List Op)} {i : Nat} {a : A} (h : (init progs).as[i]? = some a) :
    ∃ p, a = ⟨p, 0, 0⟩ := by
  simp only [init, List.getElem?_map, Option.map_eq_some_iff] at h
  obtain ⟨p, _, rfl⟩ := h
  exact ⟨p, rfl⟩

theorem inv_init (progs : List (List Op)) : Inv (init progs) :=
  { h1 := fun i a h hc => by
      obtain ⟨p, rfl⟩ := init_as h
      rw [inCrit_zero] at hc
      cases hc
    h2 := fun i h => by cases h
    rn := rfl
    mx := Nat.zero_le 1
    pd := rfl
    mo := fun j k h => by cases h
    sf := fun j k h => by cases h
    nd := List.nodup_nil }

/-- an actor's own move: the call number grows, or within the call the program counter does not fall
and the actor does not leave its critical section -/
def Mono (a a' : A) : Prop :=
  a.opNo < a'.opNo ∨ (a.opNo = a'.opNo ∧ a.pc ≤ a'.pc ∧ (inCrit a = true → inCrit a' = true))

/-- a call number in the actor's past stays there; one that is the current call, with a fact `Q`
that survives growth of the program counter, stays so or moves to the past -/
theorem Mono.past {a a' : A} (hm : Mono a a') {Q : A → Prop}
    (hQ : a.pc ≤ a'.pc → (inCrit a = true → inCrit a' = true) → Q a → Q a') {k : Nat}
    (hk : k < a.opNo ∨ (k = a.opNo ∧ Q a)) : k < a'.opNo ∨ (k = a'.opNo ∧ Q a') := by
  rcases hm with hm | ⟨h1, h2, h3⟩
  · exact .inl (hk.elim (Nat.lt_trans · hm) fun h => h.1 ▸ hm)
  · exact hk.imp (Nat.lt_of_lt_of_eq · h1) fun h => ⟨h.1.trans h1, hQ h2 h3 h.2⟩

theorem Mono.mo {a a' : A} (hm : Mono a a') {k : Nat}
    (hk : k < a.opNo ∨ (k = a.opNo ∧ 2 ≤ a.pc)) : k < a'.opNo ∨ (k = a'.opNo ∧ 2 ≤ a'.pc) :=
  hm.past (Q := fun a => 2 ≤ a.pc) (fun h _ => (Nat.le_trans · h)) hk

theorem Mono.sf {a a' : A} (hm : Mono a a') {k : Nat}
    (hk : k < a.opNo ∨ (k = a.opNo ∧ 5 ≤ a.pc ∧ inCrit a = true)) :
    k < a'.opNo ∨ (k = a'.opNo ∧ 5 ≤ a'.pc ∧ inCrit a' = true) :=
  hm.past (Q := fun a => 5 ≤ a.pc ∧ inCrit a = true) (fun h hc => And.imp (Nat.le_trans · h) hc) hk

theorem Mono.mut_succ {c l : Bool} {rest : List Op} {pc opNo : Nat} :
    Mono ⟨.mutate c l :: rest, pc, opNo⟩ ⟨.mutate c l :: rest, pc + 1, opNo⟩ :=
  Or.inr ⟨rfl, Nat.le_succ pc, fun _ => rfl⟩

/-- a move of an actor that is outside its critical section before and after -/
theorem inv_noncrit {s : S} (hI : Inv s) {i : Nat} {a a' : A} (hi : s.as[i]? = some a)
    {r : Nat} (hc : inCrit a = false) (hc' : inCrit a' = false) (hm : Mono a a') :
    Inv (setA { s with readers := r } i a') := by
  have hne : s.holder ≠ some i := by
    intro h
    obtain ⟨b, hb, hbc⟩ := hI.h2 i h
    cases hi.symm.trans hb
    cases hc.symm.trans hbc
  simp only [setA]
  refine ⟨?_, ?_, ?_, ?_, ?_, ?_, ?_, ?_⟩
  · exact forall_set (Q := fun j b => inCrit b = true → s.holder = some j)
      (fun j b _ => hI.h1 j b) fun hb => absurd (hc'.symm.trans hb) Bool.false_ne_true
  · intro j hj
    have hij : i ≠ j := fun e => hne (by rw [e]; exact hj)
    rw [List.getElem?_set_ne hij]; exact hI.h2 j hj
  · rw [runOf_other hne]; exact hI.rn
  · exact hI.mx
  · rw [pendOf_other hne]; exact hI.pd
  · intro j k hjk; exact getElem?_set_keep hi hm.mo (hI.mo j k hjk)
  · intro j k hjk; exact getElem?_set_keep hi hm.sf (hI.sf j k hjk)
  · exact hI.nd

/-- a move of the actor that holds the permit, or that takes the free permit -/
theorem inv_crit {s : S} (hI : Inv s) {i : Nat} {a : A} (hi : s.as[i]? = some a) (a' : A)
    (hh : s.holder = none ∨ s.holder = some i) (hm : Mono a a')
    {h' : Option Nat} {r' : List (Nat × Nat)} {rd' : Nat} {m' f' : List (Nat × Nat)} {x' : Nat}
    (Hh : h' = if inCrit a' = true then some i else none)
    (Hr : r' = runOf h' (s.as.set i a'))
    (Hx : x' ≤ 1)
    (Hp : m' = f' ++ pendOf h' (s.as.set i a'))
    (Hm : ∀ p ∈ m', p ∈ s.mutOrder ∨ (p = (i, a'.opNo) ∧ 2 ≤ a'.pc))
    (Hf : ∀ p ∈ f', p ∈ s.sideFx ∨ (p = (i, a'.opNo) ∧ 5 ≤ a'.pc ∧ inCrit a' = true))
    (Hn : m'.Nodup) :
    Inv { holder := h', running := r', readers := rd', mutOrder := m', sideFx := f',
          maxRunning := x', as := s.as.set i a' } := by
  refine ⟨?_, ?_, Hr, Hx, Hp, ?_, ?_, Hn⟩
  · refine forall_set (Q := fun j b => inCrit b = true → h' = some j) ?_ ?_
    · exact fun j b hji hj hb => absurd (eq_of_free_or_held hh (hI.h1 j b hj hb)) hji
    · intro hb
      rw [Hh, if_pos hb]
  · intro j hj
    obtain ⟨hc, hij⟩ := Option.ite_none_right_eq_some.1 (Hh.symm.trans hj)
    cases hij
    exact ⟨a', getElem?_set_self_of_some a' hi, hc⟩
  · intro j k hjk
    rcases Hm _ hjk with h | ⟨h1, h2⟩
    · exact getElem?_set_keep hi hm.mo (hI.mo j k h)
    · cases h1
      exact ⟨a', getElem?_set_self_of_some a' hi, Or.inr ⟨rfl, h2⟩⟩
  · intro j k hjk
    rcases Hf _ hjk with h | ⟨h1, h2⟩
    · exact getElem?_set_keep hi hm.sf (hI.sf j k h)
    · cases h1
      exact ⟨a', getElem?_set_self_of_some a' hi, Or.inr ⟨rfl, h2⟩⟩

/-- `inv_crit` for a move that writes neither the mutation order nor a frame -/
theorem inv_crit_quiet {s : S} (hI : Inv s) {i : Nat} {a : A} (hi : s.as[i]? = some a) (a' : A)
    (hh : s.holder = none ∨ s.holder = some i) (hm : Mono a a')
    {h' : Option Nat} {r' : List (Nat × Nat)} {rd' : Nat}
    (Hh : h' = if inCrit a' = true then some i else none)
    (Hr : r' = runOf h' (s.as.set i a'))
    (Hp : pendOf h' (s.as.set i a') = pendOf s.holder s.as) :
    Inv { s with holder := h', running := r', readers := rd', as := s.as.set i a' } :=
  inv_crit hI hi a' hh hm Hh Hr hI.mx (by rw [Hp]; exact hI.pd)
    (fun _ hp => Or.inl hp) (fun _ hp => Or.inl hp) hI.nd

theorem Inv.holder_view {s : S} (hI : Inv s) {i : Nat} {a : A} (hi : s.as[i]? = some a)
    (hc : inCrit a = true) :
    s.holder = some i ∧ s.running = (if a.pc = 2 then [(i, a.opNo)] else []) ∧
      pendOf s.holder s.as = if midLinked a = true then [(i, a.opNo)] else [] := by
  have hh : s.holder = some i := hI.h1 i a hi hc
  refine ⟨hh, ?_, ?_⟩
  · rw [hI.rn, hh, runOf_get hi]
  · rw [hh, pendOf_get hi]

theorem Inv.new_call {s : S} (hI : Inv s) {i : Nat} {a : A} (hi : s.as[i]? = some a)
    (hpc : a.pc < 2) : (i, a.opNo) ∉ s.mutOrder := by
  intro h
  obtain ⟨b, hb, hk⟩ := hI.mo _ _ h
  cases hi.symm.trans hb
  omega

theorem inv_stepA {s : S} (hI : Inv s) {i : Nat} {prog : List Op} {pc opNo : Nat}
    (hi : s.as[i]? = some ⟨prog, pc, opNo⟩) : Inv (stepA s i ⟨prog, pc, opNo⟩) := by
  cases prog with
  | nil => exact hI
  | cons op rest =>
    cases op with
    | readOnly =>
      cases pc with
      | zero =>
        exact inv_noncrit hI hi rfl rfl (Or.inr ⟨rfl, Nat.zero_le 1, fun h => h⟩)
      | succ n =>
        exact inv_noncrit hI hi rfl (inCrit_zero _ _) (Or.inl (Nat.lt_succ_self opNo))
    | mutate c l =>
      match pc with
      | 0 =>  -- acquire the permit
        dsimp only [stepA]
        cases hh : s.holder with
        | some j => exact hI
        | none =>
          have hr : s.running = [] := by
            rw [hI.rn, hh]
            rfl
          refine inv_crit_quiet hI hi ⟨.mutate c l :: rest, 1, opNo⟩ (Or.inl hh) Mono.mut_succ rfl
            ?_ ?_
          · rw [hr, runOf_self hi]
            rfl
          · rw [pendOf_self hi, hh]
            cases l <;> rfl
      | 1 =>  -- the effect begins: `running` and, for an attached run, `mutOrder` get the call
        obtain ⟨hh, hr, hp⟩ := hI.holder_view hi rfl
        -- at pc 1 the `if a.pc = 2 …` of `Inv.holder_view` computes to its `else`
        have hr : s.running = [] := hr
        have hpd : s.mutOrder = s.sideFx := by
          rw [hI.pd, hp]
          cases l <;> exact List.append_nil _
        dsimp only [stepA, noteMax, setA]
        -- `hh` serves as `Hh` here and below: on a literal record the `if inCrit a' …` computes to `some i`
        refine inv_crit hI hi ⟨.mutate c l :: rest, 2, opNo⟩ (Or.inr hh) Mono.mut_succ hh ?_ ?_ ?_
          ?_ (fun _ hp => Or.inl hp) ?_
        · rw [hr, hh, runOf_self hi]
          rfl
        · rw [hr]
          exact Nat.max_le.2 ⟨hI.mx, Nat.le_refl 1⟩
        · rw [hh, pendOf_self hi, hpd]
          cases l
          · exact (List.append_nil _).symm
          · rfl
        · intro p hp
          cases l
          · exact Or.inl hp
          · exact (List.mem_append.1 hp).imp_right fun h => ⟨List.mem_singleton.1 h, Nat.le_refl 2⟩
        · cases l
          · exact hI.nd
          · exact pairwise_snoc.mpr ⟨hI.nd, fun _ hb e => hI.new_call hi (Nat.lt_succ_self 1) (e ▸ hb)⟩
      | 2 =>  -- the effect ends on its own
        obtain ⟨hh, hr, hp⟩ := hI.holder_view hi rfl
        refine inv_crit_quiet hI hi ⟨.mutate c l :: rest, 3, opNo⟩ (Or.inr hh) Mono.mut_succ hh
          ?_ ?_
        · rw [hh, hr, runOf_self hi]
          simp
        · rw [hp, hh, pendOf_self hi]
          cases l <;> rfl
      | 3 =>  -- tool frames
        obtain ⟨hh, hr, hp⟩ := hI.holder_view hi rfl
        refine inv_crit_quiet hI hi ⟨.mutate c l :: rest, 4, opNo⟩ (Or.inr hh) Mono.mut_succ hh
          ?_ ?_
        · rw [hh, runOf_self hi]
          exact hr
        · rw [hp, hh, pendOf_self hi]
          cases l <;> rfl
      | 4 =>  -- the side-effects frame (attached runs only)
        obtain ⟨hh, hr, hp⟩ := hI.holder_view hi rfl
        have hpd := hI.pd
        rw [hp] at hpd
        dsimp only [stepA]
        refine inv_crit hI hi ⟨.mutate c l :: rest, 5, opNo⟩ (Or.inr hh) Mono.mut_succ hh ?_ hI.mx
          ?_ (fun _ hp => Or.inl hp) ?_ hI.nd
        · rw [hh, runOf_self hi]
          exact hr
        · rw [hh, pendOf_self hi, hpd]
          cases l
          · rfl
          · exact (List.append_nil _).symm
        · intro p hp
          cases l
          · exact Or.inl hp
          · exact (List.mem_append.1 hp).imp_right
              fun h => ⟨List.mem_singleton.1 h, Nat.le_refl 5, rfl⟩
      | n + 5 =>  -- release
        obtain ⟨hh, hr, hp⟩ := hI.holder_view hi rfl
        refine inv_crit_quiet hI hi ⟨rest, 0, opNo + 1⟩ (Or.inr hh) ?_ ?_ ?_ ?_
        · exact Or.inl (Nat.lt_succ_self opNo)
        · rw [inCrit_zero]
          rfl
        · rw [hr]
          rfl
        · rw [hp]
          cases l <;> rfl

theorem Inv.running_mem {s : S} (hI : Inv s) {p : Nat × Nat} (hp : p ∈ s.running) :
    s.holder = some p.1 ∧ ∃ a, s.as[p.1]? = some a ∧ a.pc = 2 ∧ a.opNo = p.2 :=
  runOf_mem (hI.rn ▸ hp)

/-- with `kill` no command outlives its runner, so `zombieEnd` finds nothing to remove -/
theorem zombieEnd_noop {s : S} (hI : Inv s) (i k : Nat) : act true s (.zombieEnd i k) = s := by
  rw [act]
  by_cases hm : (i, k) ∈ s.running
  · -- an entry of `running` is its actor's current call at pc 2: the guard spares it
    obtain ⟨_, a, ha, hpc, hk⟩ := hI.running_mem hm
    rw [ha]
    exact if_pos ⟨hk, hpc⟩
  · have hf : s.running.filter (· != (i, k)) = s.running :=
      List.filter_eq_self.2 fun p hp => bne_iff_ne.2 fun e => hm (e ▸ hp)
    rw [hf]
    cases s.as[i]? with
    | none => rfl
    | some a => exact ite_self s

/-- `zombieEnd` for the call its actor is still waiting on (pc 2) leaves the entry in `running` -/
example :
    (run true [[.mutate false false]] [.step 0, .step 0, .zombieEnd 0 0]).running = [(0, 0)] := by
  decide

/-- with `kill`, a timeout that fires does what the actor's own "effect ends" step does -/
theorem timeout_kill (s : S) (i : Nat) :
    act true s (.timeout i) = s ∨ act true s (.timeout i) = act true s (.step i) := by
  rw [act, act]
  cases s.as[i]? with
  | none => exact Or.inl rfl
  | some a =>
    obtain ⟨prog, pc, opNo⟩ := a
    cases prog with
    | nil => exact Or.inl rfl
    | cons op rest =>
      cases op with
      | readOnly => exact Or.inl rfl
      | mutate c l =>
        cases c with
        | false => exact Or.inl rfl
        | true =>
          by_cases hpc : pc = 2
          · subst hpc
            exact Or.inr rfl
          · exact Or.inl (if_neg hpc)

theorem inv_act (s : S) (x : Act) (hI : Inv s) : Inv (act true s x) := by
  have hstep : ∀ i, Inv (act true s (.step i)) := by
    intro i
    rw [act]
    cases hi : s.as[i]? with
    | some a => exact inv_stepA hI hi
    | none => exact hI
  cases x with
  | step i => exact hstep i
  | timeout i =>
    rcases timeout_kill s i with h | h <;> rw [h]
    · exact hI
    · exact hstep i
  | zombieEnd i k =>
    rw [zombieEnd_noop hI]
    exact hI

theorem inv_run (progs : List (List Op)) (sched : List Act) : Inv (run true progs sched) :=
  foldl_inv inv_act sched _ (inv_init progs)

theorem run_append (kill : Bool) (progs : List (List Op)) (s₁ s₂ : List Act) :
    run kill progs (s₁ ++ s₂) = s₂.foldl (act kill) (run kill progs s₁) :=
  List.foldl_append

/-! ### what the invariant says -/

theorem Inv.mutex {s : S} (hI : Inv s) : s.running.length ≤ 1 ∧ s.maxRunning ≤ 1 :=
  ⟨by rw [hI.rn]; exact runOf_length_le _ _, hI.mx⟩

theorem Inv.effect_visible {s : S} (hI : Inv s) {i : Nat} {a : A} {c l : Bool} {rest : List Op}
    (hi : s.as[i]? = some a) (hp : a.prog = .mutate c l :: rest) (hpc : a.pc = 2) :
    (i, a.opNo) ∈ s.running := by
  have hc : inCrit a = true := by simp [inCrit, hp, hpc]
  rw [(hI.holder_view hi hc).2.1, if_pos hpc]
  exact List.mem_singleton_self _

/-- `hk`: actor `i` is still in call `k`, it has not released the permit since the frame -/
theorem Inv.frame_before_release {s : S} (hI : Inv s) {i k : Nat} {a : A}
    (h : (i, k) ∈ s.sideFx) (ha : s.as[i]? = some a) (hk : a.opNo = k) :
    s.holder = some i ∧ 5 ≤ a.pc := by
  obtain ⟨b, hb, hkb⟩ := hI.sf i k h
  cases ha.symm.trans hb
  rcases hkb with hkb | ⟨_, h5, hc⟩
  · omega
  · exact ⟨hI.h1 i a ha hc, h5⟩

theorem Inv.frame_after_effect {s : S} (hI : Inv s) {i k : Nat} (h : (i, k) ∈ s.sideFx) :
    (i, k) ∉ s.running := by
  intro hr
  obtain ⟨_, a, ha, hpc, hk⟩ := hI.running_mem hr
  have := (hI.frame_before_release h ha hk).2
  omega

theorem allDone_get {s : S} (hd : allDone s = true) {i : Nat} {a : A} (hi : s.as[i]? = some a) :
    a.prog = [] :=
  List.isEmpty_iff.1 (List.all_eq_true.1 hd a (List.mem_of_getElem? hi))

theorem pendOf_allDone {s : S} (hd : allDone s = true) : pendOf s.holder s.as = [] := by
  fun_cases pendOf s.holder s.as
  case case3 i a ha hm => simp [midLinked, allDone_get hd ha] at hm
  all_goals rfl

theorem order_agrees (progs : List (List Op)) (sched : List Act)
    (hd : allDone (run true progs sched) = true) :
    (run true progs sched).sideFx = (run true progs sched).mutOrder := by
  rw [(inv_run progs sched).pd, pendOf_allDone hd]
  exact (List.append_nil _).symm

theorem one_frame_per_call (progs : List (List Op)) (sched : List Act) :
    (run true progs sched).sideFx.Nodup ∧ (run true progs sched).mutOrder.Nodup := by
  have hn := (inv_run progs sched).nd
  refine ⟨?_, hn⟩
  rw [(inv_run progs sched).pd, List.nodup_append] at hn
  exact hn.1

/-! ### deadlock freedom -/

def opCost : Op → Nat
  | .readOnly => 2
  | .mutate _ _ => 6

/-- micro-steps actor `a` still has to take -/
def cost (a : A) : Nat :=
  match a.prog with
  | [] => 0
  | .readOnly :: rest => (2 - min a.pc 1) + (rest.map opCost).sum
  | .mutate _ _ :: rest => (6 - min a.pc 5) + (rest.map opCost).sum

def measure (s : S) : Nat := (s.as.map cost).sum

theorem cost_zero (prog : List Op) (n : Nat) : cost ⟨prog, 0, n⟩ = (prog.map opCost).sum := by
  cases prog with
  | nil => rfl
  | cons op rest => cases op <;> rfl

theorem cost_next {a : A} {op : Op} {rest : List Op} (hp : a.prog = op :: rest) (n : Nat) :
    cost ⟨rest, 0, n⟩ < cost a := by
  rw [cost_zero, cost, hp]
  cases op <;> exact Nat.lt_add_of_pos_left
    (Nat.sub_pos_of_lt (Nat.lt_of_le_of_lt (Nat.min_le_right _ _) (Nat.lt_succ_self _)))

theorem step_decr {s : S} {i : Nat} {a : A} (hi : s.as[i]? = some a) (hne : a.prog ≠ [])
    (hen : inCrit a = true ∨ s.holder = none) : measure (act true s (.step i)) < measure s := by
  simp only [act, hi]
  fun_cases stepA s i a
  case case1 hp => exact absurd hp hne
  -- an acquire that finds the permit taken does not move: `hen` excludes it
  case case5 c l rest hp hpc j hh => simp [inCrit, hp, hpc, hh] at hen  -- `mutate`, pc 0, `holder = some j`
  -- the last step of a read-only and of a mutating op
  case case3 rest hp _ => exact sum_map_set_lt cost hi (cost_next hp _)  -- `readOnly`, pc ≥ 1
  case case10 c l rest hp _ _ _ _ _ => exact sum_map_set_lt cost hi (cost_next hp _)  -- `mutate`, pc ≥ 5
  -- the other branches move the program counter on by one inside an op
  all_goals
    refine sum_map_set_lt cost hi ?_
    simp only [cost, *]
    exact Nat.add_lt_add_right (by decide) _

theorem inCrit_prog_ne {a : A} (h : inCrit a = true) : a.prog ≠ [] := by
  intro e
  simp [inCrit, e] at h

theorem progress {s : S} (hI : Inv s) (hd : allDone s = false) :
    ∃ i, measure (act true s (.step i)) < measure s := by
  -- the permit holder can move; while the permit is free every unfinished actor can
  cases hh : s.holder with
  | some i =>
    obtain ⟨a, hi, hc⟩ := hI.h2 i hh
    exact ⟨i, step_decr hi (inCrit_prog_ne hc) (Or.inl hc)⟩
  | none =>
    obtain ⟨a, ha, hp⟩ := List.all_eq_false.mp hd
    obtain ⟨i, hi⟩ := List.getElem?_of_mem ha
    exact ⟨i, step_decr hi (by simpa using hp) (Or.inr hh)⟩

theorem Inv.can_finish {s : S} (hI : Inv s) :
    ∃ more : List Act, allDone (more.foldl (act true) s) = true :=
  exists_foldl_of_measure (goal := fun s => allDone s = true) measure inv_act
    (fun s hI hd => by
      obtain ⟨i, hi⟩ := progress hI (Bool.eq_false_iff.2 hd)
      exact ⟨.step i, hi⟩)
    s hI

end Rip.WsLTS
