import Rip.Model.AuthLTS
import Rip.Lemmas.Basic
/-!
C18, the lock-file protocol LTS (`Rip.Model.AuthLTS`). The schedule theorems are read off the invariant
`LInv` (a process that relies on a lock file owns the one at the path; a pid that a stale cleanup
expects is dead). Every step keeps it through the one update lemma `LInv.update`: the lock file stays
(`move`, `goto`), or it changes where no other process relies on it (`change`).
-/
namespace Rip.AuthLTS
open Rip.Basic

/-- a process that is not coming back: crashed or released -/
def gone : Pc → Bool
  | .dead => true
  | .done => true
  | _ => false

/-- pcs reachable only in the non-atomic protocol -/
def isRename : Pc → Bool
  | .staleRename _ => true
  | .corruptRename => true
  | _ => false

theorem alive_zero (s : S) : alive s 0 = false := rfl

theorem alive_succ (s : S) (k : Nat) :
    alive s (k + 1) = match s.pcs[k]? with
      | some pc => !gone pc
      | none => false := by
  rw [alive]
  cases s.pcs[k]? with
  | none => rfl
  | some pc => cases pc <;> rfl

theorem alive_pidOf {s : S} {j : Nat} {pc : Pc} (h : s.pcs[j]? = some pc) (hg : gone pc = false) :
    alive s (pidOf j) = true := by
  rw [pidOf, alive_succ, h]
  exact congrArg (!·) hg

/-- dead stays dead -/
theorem alive_update_false {s : S} {i : Nat} {old : Pc} (hi : s.pcs[i]? = some old)
    {L' : Option LockFile} {M' : Option Pid} {pc' : Pc}
    (hgone : gone old = true → gone pc' = true) {p : Pid}
    (h : alive s p = false) : alive (⟨L', M', s.pcs.set i pc'⟩ : S) p = false := by
  cases p with
  | zero => rfl
  | succ k =>
    rw [alive_succ] at h ⊢
    by_cases hik : i = k
    · subst hik
      rw [hi] at h
      rw [getElem?_set_self_of_some pc' hi]
      exact congrArg (!·) (hgone (Bool.not_inj (y := true) h))
    · rw [List.getElem?_set_ne hik]
      exact h

/-! ### the invariant of the atomic protocol -/

/-- the lock file that contender `i` at `pc` relies on, if any -/
def lockReq (i : Nat) : Pc → Option LockFile
  | .writeRec => some { owner := pidOf i, record := none }
  | .holding => some { owner := pidOf i, record := some (pidOf i) }
  | .dropMeta => some { owner := pidOf i, record := some (pidOf i) }
  | .dropLock => some { owner := pidOf i, record := some (pidOf i) }
  | _ => none

theorem lockReq_owner {j : Nat} {pc : Pc} {f : LockFile} (h : lockReq j pc = some f) :
    f.owner = pidOf j := by
  revert h
  fun_cases lockReq j pc with
  | case5 => exact nofun
  | _ =>
    rintro ⟨⟩
    rfl

theorem lockReq_some {s : S} {j : Nat} {pc : Pc} {f : LockFile} (hj : s.pcs[j]? = some pc) :
    lockReq j pc = some f →
    alive s f.owner = true ∧ (f.record = none ∨ f.record = some f.owner) := by
  fun_cases lockReq j pc with
  | case1 =>
    intro h
    cases h
    exact ⟨alive_pidOf hj rfl, .inl rfl⟩
  | case2 | case3 | case4 =>
    intro h
    cases h
    exact ⟨alive_pidOf hj rfl, .inr rfl⟩
  | case5 => exact nofun

/-- lock.json `f` is a dead process's: its record names a dead pid, or it has no record yet and
its creator is dead -/
def Orphaned (s : S) (f : LockFile) : Prop :=
  (∃ e, f.record = some e ∧ alive s e = false) ∨ (f.record = none ∧ alive s f.owner = false)

structure LInv (s : S) : Prop where
  /-- whoever is writing its record / holding / dropping owns the lock file that is at the path -/
  own : ∀ (i : Nat) (pc : Pc) (f : LockFile), s.pcs[i]? = some pc → lockReq i pc = some f → s.lock = some f
  /-- the pid a stale-cleanup expects was observed dead -/
  stale : ∀ (i : Nat) (e : Pid), s.pcs[i]? = some (Pc.staleReread e) → alive s e = false
  /-- the separate rename steps are not used -/
  noRename : ∀ (i : Nat) (pc : Pc), s.pcs[i]? = some pc → isRename pc = false

theorem LInv.unique {s : S} (hinv : LInv s) {i j : Nat} {pc pc2 : Pc} {f f2 : LockFile}
    (hi : s.pcs[i]? = some pc) (ri : lockReq i pc = some f)
    (hj : s.pcs[j]? = some pc2) (rj : lockReq j pc2 = some f2) : i = j := by
  have h2 := hinv.own j pc2 f2 hj rj
  rw [hinv.own i pc f hi ri] at h2
  cases h2
  exact Nat.succ.inj ((lockReq_owner ri).symm.trans (lockReq_owner rj))

theorem LInv.update {s : S} (hinv : LInv s) {i : Nat} {old : Pc} (hi : s.pcs[i]? = some old)
    (L' : Option LockFile) (M' : Option Pid) (pc' : Pc)
    (hothers : ∀ j pc f, j ≠ i → s.pcs[j]? = some pc → lockReq j pc = some f → L' = some f)
    (hself : ∀ f, lockReq i pc' = some f → L' = some f)
    (hstale : ∀ e, pc' = .staleReread e → alive s e = false)
    (hren : isRename pc' = false)
    (hgone : gone old = true → gone pc' = true) :
    LInv (⟨L', M', s.pcs.set i pc'⟩ : S) := by
  refine ⟨?_, ?_, ?_⟩
  · intro j pc f hj hr
    exact forall_set (Q := fun j pc => ∀ f, lockReq j pc = some f → L' = some f)
      (fun j pc hne hj f => hothers j pc f hne hj) hself j pc hj f hr
  · intro j e hj
    exact alive_update_false hi hgone
      (forall_set (Q := fun _ pc => ∀ e, pc = .staleReread e → alive s e = false)
        (fun j pc _ hj e he => hinv.stale j e (by rw [← he]; exact hj)) hstale j _ hj e rfl)
  · exact forall_set (Q := fun _ pc => isRename pc = false)
      (fun j pc _ hj => hinv.noRename j pc hj) hren

namespace LInv

theorem move {s : S} (hinv : LInv s) {i : Nat} {old : Pc} (hi : s.pcs[i]? = some old)
    {M' : Option Pid} (pc' : Pc)
    (hself : ∀ f, lockReq i pc' = some f → s.lock = some f)
    (hstale : ∀ e, pc' = .staleReread e → alive s e = false)
    (hren : isRename pc' = false)
    (hgone : gone old = true → gone pc' = true) :
    LInv (⟨s.lock, M', s.pcs.set i pc'⟩ : S) :=
  hinv.update hi s.lock M' pc' (fun j pc f _ hj hr => hinv.own j pc f hj hr) hself hstale hren hgone

/-- `hsole`: no other process relies on the lock file that is there (none, the process's own, or an
orphaned one) -/
theorem change {s : S} (hinv : LInv s) {i : Nat} {old : Pc} (hi : s.pcs[i]? = some old)
    (hsole : s.lock = none ∨ (∃ f, lockReq i old = some f) ∨ ∃ f, s.lock = some f ∧ Orphaned s f)
    (L' : Option LockFile) (M' : Option Pid) (pc' : Pc)
    (hself : ∀ f, lockReq i pc' = some f → L' = some f)
    (hstale : ∀ e, pc' = .staleReread e → alive s e = false)
    (hren : isRename pc' = false)
    (hgone : gone old = true → gone pc' = true) :
    LInv (⟨L', M', s.pcs.set i pc'⟩ : S) := by
  refine hinv.update hi L' M' pc' (fun j pc f hji hj hr => False.elim ?_) hself hstale hren hgone
  have hl := hinv.own j pc f hj hr
  rcases hsole with h | ⟨f0, h⟩ | ⟨f0, h, hdead⟩
  · rw [h] at hl
    cases hl
  · exact hji (hinv.unique hj hr hi h)
  · rw [h] at hl
    cases hl
    obtain ⟨hal, hrec⟩ := lockReq_some hj hr
    rcases hdead with ⟨e, he, hde⟩ | ⟨_, hdo⟩
    · rcases hrec with hr | hr
      · rw [hr] at he
        cases he
      · rw [hr] at he
        cases he
        rw [hde] at hal
        cases hal
    · rw [hdo] at hal
      cases hal

theorem goto {s : S} (hinv : LInv s) {i : Nat} {old : Pc} (hi : s.pcs[i]? = some old)
    {M' : Option Pid} (pc' : Pc) (hreq : lockReq i pc' = none)
    (hst : ∀ e, pc' ≠ .staleReread e) (hren : isRename pc' = false) (hlive : gone old = false) :
    LInv (⟨s.lock, M', s.pcs.set i pc'⟩ : S) :=
  hinv.move hi pc' (fun f hf => by rw [hreq] at hf; cases hf) (fun e h => absurd h (hst e)) hren
    (fun h => by rw [hlive] at h; cases h)

theorem step {s : S} (hinv : LInv s) {i : Nat} {pc : Pc} (hi : s.pcs[i]? = some pc) :
    LInv (stepProc true s i pc) := by
  have hren := hinv.noRename i pc hi
  fun_cases stepProc true s i pc with
  -- the lock file changes: `acquire` creates it where there is none, `writeRec` and `dropLock` act on
  -- the process's own, the two cleanups remove an orphaned one
  | case1 hl => exact hinv.change hi (.inl hl) _ _ .writeRec (fun f hf => hf) nofun rfl nofun
  | case3 lock' =>
    have hl : lock' = some ⟨pidOf i, some (pidOf i)⟩ := by
      simp only [lock', hinv.own i _ _ hi rfl, if_true]
    rw [hl]
    exact hinv.change hi (.inr (.inl ⟨_, rfl⟩)) _ _ .holding (fun f hf => hf) nofun rfl nofun
  | case24 => exact hinv.change hi (.inr (.inl ⟨_, rfl⟩)) none _ .done nofun nofun rfl nofun
  | case10 e f hl hr =>
    exact hinv.change hi (.inr (.inr ⟨f, hl, .inl ⟨e, hr, hinv.stale i e hi⟩⟩)) none _ (.staleMeta e)
      nofun nofun rfl nofun
  | case17 f _ hl _ hc =>
    simp only [Bool.and_eq_true, decide_eq_true_eq, Bool.not_eq_true'] at hc
    exact hinv.change hi (.inr (.inr ⟨f, hl, .inr hc⟩)) none _ .acquire nofun nofun rfl nofun
  -- `dropMeta` goes on relying on the same file
  | case23 => exact hinv.move hi .dropLock (fun f hf => hinv.own i _ f hi hf) nofun rfl nofun
  -- `inspect` enters the stale cleanup with a pid it has seen dead
  | case7 f hl p hp ha =>
    refine hinv.move hi (.staleReread p) nofun ?_ rfl nofun
    intro e h
    cases h
    exact eq_false_of_ne_true ha
  -- the separate rename steps do not occur
  | case11 | case19 => contradiction
  | case14 | case15 | case21 | case22 => cases hren
  | case4 | case25 | case26 | case27 => exact hinv
  -- every other branch leaves the lock file alone and goes on to a pc that relies on nothing
  | _ => exact hinv.goto hi _ rfl nofun rfl rfl

theorem act {s : S} (hinv : LInv s) (a : Act) : LInv (act true s a) := by
  fun_cases Rip.AuthLTS.act true s a with
  | case1 i pc hi => exact hinv.step hi
  | case4 i pc _ hi => exact hinv.move hi .dead nofun nofun rfl (fun _ => rfl)
  | case6 i hi => exact hinv.move hi .dropMeta (fun f hf => hinv.own _ _ f hi hf) nofun rfl nofun
  | _ => exact hinv

theorem run {s : S} (hinv : LInv s) (sched : List Act) : LInv (run true s sched) :=
  foldl_inv (P := LInv) (fun _ a h => h.act a) sched s hinv

theorem fresh (L : Option LockFile) (M : Option Pid) (n : Nat) :
    LInv (⟨L, M, List.replicate n .acquire⟩ : S) := by
  have key : ∀ (i : Nat) (pc : Pc), (List.replicate n Pc.acquire)[i]? = some pc → pc = .acquire :=
    fun i pc h => List.eq_of_mem_replicate (List.mem_of_getElem? h)
  refine ⟨?_, ?_, ?_⟩
  · intro i pc f hi hr
    cases key i pc hi
    cases hr
  · intro i e hi
    cases key i _ hi
  · intro i pc hi
    cases key i pc hi
    rfl

end LInv

/-- the states a crashed previous authority (pid 0) can leave behind, with n fresh contenders -/
def Leftover (s : S) : Prop :=
  ∃ n, s = initNone n ∨ s = initStale n true ∨ s = initStale n false ∨ s = initHalfWritten n

theorem LInv.leftover {s : S} (h : Leftover s) : LInv s := by
  obtain ⟨n, h | h | h | h⟩ := h <;> subst h <;> exact LInv.fresh _ _ n

theorem holderPc_lockReq {i : Nat} {pc : Pc}
    (h : (pc == .holding || pc == .dropMeta || pc == .dropLock) = true) :
    lockReq i pc = some { owner := pidOf i, record := some (pidOf i) } := by
  simp only [Bool.or_eq_true, beq_iff_eq] at h
  rcases h with (rfl | rfl) | rfl <;> rfl

theorem LInv.holders_le_one {s : S} (hinv : LInv s) : holders s ≤ 1 := by
  unfold holders
  apply filter_length_le_one
  intro i j a b hi hj ha hb
  exact hinv.unique hi (holderPc_lockReq ha) hj (holderPc_lockReq hb)

/-! ### a lone contender -/

theorem act_step_zero (atomic : Bool) (L : Option LockFile) (M : Option Pid) (pc : Pc) (rest : List Pc) :
    act atomic ⟨L, M, pc :: rest⟩ (.step 0) = stepProc atomic ⟨L, M, pc :: rest⟩ 0 pc := rfl

theorem setPc_zero (L : Option LockFile) (M : Option Pid) (pc pc' : Pc) (rest : List Pc) :
    setPc ⟨L, M, pc :: rest⟩ 0 pc' = ⟨L, M, pc' :: rest⟩ := rfl

/-- a lone scheduled contender becomes the authority, in the real (non-atomic) protocol as well -/
theorem recovers (atomic : Bool) (s0 : S) (h0 : Leftover s0) (hn : 0 < s0.pcs.length) :
    ∃ sched, (run atomic s0 sched).pcs[0]? = some .holding := by
  refine ⟨List.replicate 7 (.step 0), ?_⟩
  obtain ⟨n, h⟩ := h0
  cases n with
  | zero =>
    rcases h with h | h | h | h <;> subst h <;> exact absurd hn (Nat.lt_irrefl 0)
  | succ m =>
    -- the seven steps (the longest way, through both halves of the stale cleanup) are evaluated at the
    -- head of `.acquire :: replicate m .acquire`, in each of the four leftover states and both variants
    -- of the protocol; the only pid whose liveness is asked is 0
    rcases h with h | h | h | h <;> subst h <;> cases atomic <;>
      simp [run, act_step_zero, stepProc, setPc_zero, initNone, initStale, initHalfWritten,
        List.replicate_succ, pidOf, alive_zero]

/-! ### what the stale cleanup removes -/

theorem cleanup_only_dead (s : S) (i : Nat) (pc : Pc) (f : LockFile)
    (hclean : pc = .corruptCheck ∨ ∃ e, pc = .staleReread e)
    (hstale : ∀ e, pc = .staleReread e → alive s e = false)
    (hl : s.lock = some f) (hrm : (stepProc true s i pc).lock = none) :
    Orphaned s f := by
  rcases hclean with h | ⟨e, h⟩ <;> subst h
  · simp only [stepProc, setPc, hl, if_true] at hrm
    split at hrm
    next f' hf' hm =>
      cases hf'
      split at hrm
      next hc =>
        simp only [Bool.and_eq_true, decide_eq_true_eq, Bool.not_eq_true'] at hc
        exact Or.inr hc
      next => cases hrm
    next => cases hrm
  · simp only [stepProc, setPc, hl, if_true] at hrm
    split at hrm
    next hr => exact Or.inl ⟨e, hr, hstale e rfl⟩
    next => cases hrm

/-- the hypothesis `hstale` of `cleanup_only_dead` cannot be dropped: a contender that (in an
unreachable state) expects a live pid removes that live holder's lock -/
example :
    let s : S := { lock := some { owner := 2, record := some 2 }, metaPid := none,
                   pcs := [.staleReread 2, .holding] }
    s.pcs[0]? = some (.staleReread 2) ∧ alive s 2 = true ∧
      (stepProc true s 0 (.staleReread 2)).lock = none := by
  decide

end Rip.AuthLTS
