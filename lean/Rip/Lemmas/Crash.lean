import Rip.Model.Crash
import Rip.Lemmas.Basic
/-!
C05: crash safety of the append path with both repairs (`fixE`, `fixF`) on. Everything is read off one
closed form: `diskOf fs`, the disk that complete appends of the frames `fs` leave, and `landed f k`, what
a crash after `k` effects of appending `f` has added to the history for good.
-/
namespace Rip.Crash
open Rip.Basic

theorem filter_ne_mid {a : Nat} {xs ys : List Nat} (hx : a ∉ xs) (hy : a ∉ ys) :
    (xs ++ [a] ++ ys).filter (· ≠ a) = xs ++ ys := by
  have keep : ∀ zs : List Nat, a ∉ zs → zs.filter (· ≠ a) = zs := fun zs h =>
    List.filter_eq_self.2 fun z hz => decide_eq_true fun e => h (e ▸ hz)
  rw [List.filter_append, List.filter_append, keep xs hx, keep ys hy]
  simp

theorem filterMap_id_map_some (l : List Nat) : (l.map some).filterMap id = l := by
  rw [List.filterMap_map]
  exact List.filterMap_some

theorem getLast?_range_succ (b : Nat) : (List.range (b + 1)).getLast? = some b := by
  rw [List.range_succ, List.getLast?_concat]

/-! ### the messages+runs sidecar -/

theorem mrSeqs_nil : mrSeqs [] = [] := rfl

theorem mrSeqs_cons (f : Frame) (fs : List Frame) :
    mrSeqs (f :: fs) = (if f.mr then [0] else []) ++ (mrSeqs fs).map (· + 1) := by
  unfold mrSeqs
  rw [List.length_cons, List.range_succ_eq_map, List.filter_cons, List.filter_map]
  show (if f.mr = true then _ else _) = _
  cases f.mr <;> rfl

theorem mrSeqs_append (xs ys : List Frame) :
    mrSeqs (xs ++ ys) = mrSeqs xs ++ (mrSeqs ys).map (· + xs.length) := by
  induction xs with
  | nil => simp [mrSeqs_nil]
  | cons x xs ih =>
    rw [List.cons_append, mrSeqs_cons, mrSeqs_cons, ih]
    simp [List.map_map, Function.comp_def, Nat.add_assoc]

theorem mrSeqs_snoc (hist : List Frame) (f : Frame) :
    mrSeqs (hist ++ [f]) = if f.mr then mrSeqs hist ++ [hist.length] else mrSeqs hist := by
  rw [mrSeqs_append, mrSeqs_cons, mrSeqs_nil]; cases f.mr <;> simp

theorem lt_of_mem_mrSeqs {x : Nat} {fs : List Frame} (h : x ∈ mrSeqs fs) : x < fs.length := by
  simp only [mrSeqs, List.mem_filter, List.mem_range] at h
  exact h.1

theorem mrSeqs_mid (xs ys : List Frame) (f : Frame) :
    mrSeqs (xs ++ [f] ++ ys) =
      (if f.mr then mrSeqs xs ++ [xs.length] else mrSeqs xs) ++
        (mrSeqs ys).map (· + (xs.length + 1)) := by
  rw [mrSeqs_append, mrSeqs_snoc, List.length_append, List.length_singleton]

theorem mrSeqs_unset (xs ys : List Frame) {f g : Frame} (hf : f.mr = true) (hg : g.mr = false) :
    mrSeqs (xs ++ [g] ++ ys) = (mrSeqs (xs ++ [f] ++ ys)).filter (· ≠ xs.length) ∧
      mrSeqs (xs ++ [g] ++ ys) ≠ mrSeqs (xs ++ [f] ++ ys) := by
  have hx : xs.length ∉ mrSeqs xs := fun h => Nat.lt_irrefl _ (lt_of_mem_mrSeqs h)
  have hy : xs.length ∉ (mrSeqs ys).map (· + (xs.length + 1)) := fun h => by
    obtain ⟨y, _, hy⟩ := List.mem_map.1 h
    omega
  rw [mrSeqs_mid, mrSeqs_mid, if_pos hf, if_neg (ne_true_of_eq_false hg), filter_ne_mid hx hy]
  exact ⟨rfl, fun h => List.ne_cons_self (List.append_cancel_left (h.trans (List.append_assoc ..)))⟩

theorem fullAppend_mr (f : Frame) (n : Nat) (d : Disk) :
    (fullAppend f n d).mr = d.mr ++ (if f.mr then [n] else []) := by
  unfold fullAppend
  cases d.dangling <;> cases f.mr <;> simp

theorem appendAll_mr (fs : List Frame) (n : Nat) (d : Disk) :
    (appendAll fs n d).mr = d.mr ++ (mrSeqs fs).map (· + n) := by
  induction fs generalizing n d with
  | nil => exact (List.append_nil _).symm
  | cons f fs ih =>
    rw [appendAll, ih, fullAppend_mr, mrSeqs_cons]
    cases f.mr <;> simp [List.map_map, Function.comp_def, Nat.add_assoc, Nat.add_comm 1 n]

/-! ### healthy disks -/

/-- a healthy disk holding exactly the frames `0 .. a-1` -/
structure Good (a : Nat) (d : Disk) : Prop where
  dangling : d.dangling = none
  log : d.log = (List.range a).map some
  side : d.side = List.range a

theorem Good.gapFree {a : Nat} {d : Disk} (h : Good a d) : GapFree d := by
  refine ⟨h.dangling, ?_⟩
  rw [h.log]; simp

/-- the disk that complete appends of the frames `fs` leave -/
def diskOf (fs : List Frame) : Disk :=
  { log := (List.range fs.length).map some, dangling := none, side := List.range fs.length,
    mr := mrSeqs fs }

theorem good_diskOf (fs : List Frame) : Good fs.length (diskOf fs) := ⟨rfl, rfl, rfl⟩

theorem fullAppend_diskOf (fs : List Frame) (f : Frame) :
    fullAppend f fs.length (diskOf fs) = diskOf (fs ++ [f]) := by
  unfold diskOf
  rw [mrSeqs_snoc, List.length_append, List.length_singleton, List.range_succ, List.map_append]
  rfl

theorem appendAll_diskOf (more fs : List Frame) :
    appendAll more fs.length (diskOf fs) = diskOf (fs ++ more) := by
  induction more generalizing fs with
  | nil => rw [appendAll, List.append_nil]
  | cons m ms ih =>
    rw [appendAll, fullAppend_diskOf, List.append_cons fs m ms, ← ih, List.length_append,
      List.length_singleton]

theorem appendAll_zero (hist : List Frame) : appendAll hist 0 empty = diskOf hist :=
  appendAll_diskOf hist []

/-! ### the crashed disk -/

theorem partialAppend_all (f : Frame) (n : Nat) (d : Disk) (hd : d.dangling = none) (k : Nat)
    (hk : (effects f).length ≤ k) : partialAppend f n k d = fullAppend f n d := by
  obtain ⟨l, dg, s, m⟩ := d
  obtain ⟨big, mr⟩ := f
  cases hd
  unfold partialAppend
  rw [List.take_of_length_le hk]
  cases big <;> cases mr <;> rfl

theorem applyEff_extends (f : Frame) (n : Nat) (d : Disk) (e : Eff) :
    d.log <+: (applyEff f n d e).log ∧ d.side <+: (applyEff f n d e).side ∧
      d.mr <+: (applyEff f n d e).mr := by
  fun_cases applyEff f n d e <;> simp

/-- a crash changes nothing that was acknowledged -/
theorem partialAppend_extends (hist : List Frame) (f : Frame) (k : Nat) :
    let d0 := appendAll hist 0 empty
    let d := partialAppend f hist.length k d0
    d0.log <+: d.log ∧ d0.side <+: d.side ∧ d0.mr <+: d.mr := by
  intro d0
  refine foldl_inv (P := fun d => d0.log <+: d.log ∧ d0.side <+: d.side ∧ d0.mr <+: d.mr)
    (fun d e h => ?_) _ d0 ⟨List.prefix_refl _, List.prefix_refl _, List.prefix_refl _⟩
  have he := applyEff_extends f hist.length d e
  exact ⟨h.1.trans he.1, h.2.1.trans he.2.1, h.2.2.trans he.2.2⟩

/-! ### restart -/

/-- the interrupted frame is in the log after reopening with `fixF`: the flush happened, or the body
of a large frame reached the file -/
def Reached (f : Frame) (k : Nat) : Prop := 3 ≤ k ∨ (f.big = true ∧ 1 ≤ k)

instance (f : Frame) (k : Nat) : Decidable (Reached f k) := by unfold Reached; infer_instance

/-- the crash fell after the sidecar line and before the messages+runs line of an mr frame -/
def Short (f : Frame) (k : Nat) : Prop := f.mr = true ∧ (k = 4 ∨ k = 5)

instance (f : Frame) (k : Nat) : Decidable (Short f k) := by unfold Short; infer_instance

theorem reached_of_short {f : Frame} {k : Nat} (h : Short f k) : Reached f k :=
  .inl (by have := h.2; omega)

/-- what the crash added to the history, as the restarted authority takes it: the interrupted frame
if it `Reached` the log — after a `Short` crash as no message / run_ended frame, for then the thread
cache agrees with the log and only the messages+runs line is missing -/
def landed (f : Frame) (k : Nat) : List Frame :=
  if Reached f k then [if Short f k then { f with mr := false } else f] else []

theorem length_landed_le (f : Frame) (k : Nat) : (landed f k).length ≤ 1 := by
  unfold landed
  by_cases hr : Reached f k <;> simp [hr]

theorem landed_of_lt {f : Frame} {k : Nat} (hr : Reached f k) (h4 : k < 4) : landed f k = [f] := by
  unfold landed
  rw [if_pos hr, if_neg fun hs => by have := hs.2; omega]

/-- after a crash and the reopening the frame's log line alone is there, or what complete appends
of `landed f k` write. `effects f` is a table of at most nine entries: the 4 × 11 cases (two flags of
`f`, `k` from 0 to 9 and beyond) are closed by evaluation. -/
theorem reopen_crash (f : Frame) (n k : Nat) (d : Disk) (hd : d.dangling = none) :
    reopen true (partialAppend f n k d) =
      if Reached f k ∧ k < 4 then { d with log := d.log ++ [some n] }
      else appendAll (landed f k) n d := by
  obtain ⟨l, dg, s, m⟩ := d
  obtain ⟨big, mr⟩ := f
  cases hd
  cases big <;> cases mr <;>
    -- `eq_refl`, not `rfl`, which tries `exact HEq.rfl` first
    rcases k with _ | _ | _ | _ | _ | _ | _ | _ | _ | _ | k <;> eq_refl

/-- a reopened disk: the thread cache is the log or the log without its last frame -/
structure Opened (b : Nat) (d : Disk) : Prop where
  dangling : d.dangling = none
  log : d.log = (List.range b).map some
  side : d.side = List.range b ∨ ∃ s, b = s + 1 ∧ d.side = List.range s

theorem Good.opened {a : Nat} {d : Disk} (h : Good a d) : Opened a d :=
  ⟨h.dangling, h.log, .inl h.side⟩

theorem lastSeq_range (b : Nat) : lastSeq ((List.range b).map some) = (List.range b).getLast? := by
  simp [lastSeq]

theorem coldStart_synced {b : Nat} {d : Disk} (isMr : Nat → Bool)
    (hl : d.log = (List.range b).map some) (hs : d.side = List.range b) :
    coldStart true isMr d = (b, d) := by
  cases b with
  | zero => simp [coldStart, hl, lastSeq]
  | succ b =>
    have hl' : lastSeq d.log = some b := by rw [hl, lastSeq_range, getLast?_range_succ]
    have hs' : d.side.getLast? = some b := by rw [hs, getLast?_range_succ]
    simp [coldStart, hl', hs']

theorem coldStart_behind {s : Nat} {d : Disk} (isMr : Nat → Bool)
    (hl : d.log = (List.range (s + 1)).map some) (hs : d.side = List.range s) :
    coldStart true isMr d =
      (s + 1, { d with side := List.range (s + 1), mr := (List.range (s + 1)).filter isMr }) := by
  have hl' : lastSeq d.log = some s := by rw [hl, lastSeq_range, getLast?_range_succ]
  have hne : d.side.getLast? ≠ some s := fun h =>
    Nat.lt_irrefl s (List.mem_range.1 (hs ▸ List.mem_of_getLast? h))
  have hf : d.log.filterMap id = List.range (s + 1) := by rw [hl, filterMap_id_map_some]
  simp [coldStart, hl', hne, hf]

/-! ### the story -/

/-- which frames of `hist ++ [f]` are message / run_ended frames, by seq (what `story` passes to
`coldStart`) -/
def isMrOf (hist : List Frame) (f : Frame) : Nat → Bool :=
  fun i => (((hist ++ [f])[i]?).map (·.mr)).getD false

/-- the rebuild writes what the messages+runs sidecar should hold -/
theorem filter_isMrOf (hist : List Frame) (f : Frame) :
    (List.range (hist.length + 1)).filter (isMrOf hist f) = mrSeqs (hist ++ [f]) := by
  simp only [mrSeqs, List.length_append, List.length_singleton]
  rfl

/-- what `coldStart` (the restarted authority's reconciliation, before its first append) leaves: the next
seq and the disk are those of the history `hist ++ landed f k` -/
theorem restart (hist : List Frame) (f : Frame) (k : Nat) :
    coldStart true (isMrOf hist f) (reopen true (partialAppend f hist.length k (diskOf hist))) =
      ((hist ++ landed f k).length, diskOf (hist ++ landed f k)) := by
  rw [reopen_crash f _ k _ rfl]
  by_cases hb : Reached f k ∧ k < 4
  · -- the log has the frame, the thread cache does not: the first write rebuilds both caches
    rw [if_pos hb, landed_of_lt hb.1 hb.2,
      coldStart_behind (s := hist.length) _ (by simp [diskOf, List.range_succ]) rfl, filter_isMrOf]
    simp [diskOf, List.range_succ]
  · -- the thread cache agrees with the log: nothing is rebuilt
    rw [if_neg hb, appendAll_diskOf]
    exact coldStart_synced _ rfl rfl

theorem story_nil (fixE fixF : Bool) (hist : List Frame) (f : Frame) (k : Nat) :
    story fixE fixF hist f k [] =
      reopen fixF (partialAppend f hist.length k (appendAll hist 0 empty)) := rfl

theorem story_cons (fixE fixF : Bool) (hist : List Frame) (f : Frame) (k : Nat) (m : Frame)
    (ms : List Frame) :
    story fixE fixF hist f k (m :: ms) =
      appendAll (m :: ms)
        (coldStart fixE (isMrOf hist f)
          (reopen fixF (partialAppend f hist.length k (appendAll hist 0 empty)))).1
        (coldStart fixE (isMrOf hist f)
          (reopen fixF (partialAppend f hist.length k (appendAll hist 0 empty)))).2 :=
  rfl

theorem story_eq (hist : List Frame) (f : Frame) (k : Nat) (m : Frame) (ms : List Frame) :
    story true true hist f k (m :: ms) = diskOf (hist ++ landed f k ++ m :: ms) := by
  rw [story_cons, appendAll_zero, restart]
  exact appendAll_diskOf _ _

/-- In the proof `Opened.side` is `.inr` (thread cache one frame behind) only where the crash left the
frame's log line alone and nothing was written since; the statement keeps the bare disjunction, and
`crash_safe` states the second half. -/
theorem story_opened (hist : List Frame) (f : Frame) (k : Nat) (more : List Frame) :
    Opened (hist ++ landed f k ++ more).length (story true true hist f k more) := by
  cases more with
  | nil =>
    rw [story_nil, appendAll_zero, reopen_crash f _ k _ rfl, List.append_nil]
    by_cases hb : Reached f k ∧ k < 4
    · rw [if_pos hb, landed_of_lt hb.1 hb.2]
      exact ⟨rfl, by simp [diskOf, List.range_succ], .inr ⟨hist.length, List.length_append, rfl⟩⟩
    · rw [if_neg hb, appendAll_diskOf]
      exact (good_diskOf _).opened
  | cons m ms => exact (story_eq hist f k m ms ▸ good_diskOf _).opened

/-- both repairs on: a crash at any write boundary of any append after any history leaves a store that
restarts gap-free -/
theorem crash_safe (hist : List Frame) (f : Frame) (k : Nat) (more : List Frame) :
    let d := story true true hist f k more
    GapFree d ∧
    hist.length ≤ d.log.length ∧
    d.log.take hist.length = (List.range hist.length).map some ∧
    d.log.length ≤ hist.length + 1 + more.length ∧
    (more ≠ [] → d.side = List.range d.log.length) := by
  intro d
  have h : Opened _ d := story_opened hist f k more
  rw [List.append_assoc, List.length_append, List.length_append] at h
  have hlen : d.log.length = hist.length + ((landed f k).length + more.length) := by
    rw [h.log, List.length_map, List.length_range]
  refine ⟨⟨h.dangling, by rw [hlen]; exact h.log⟩, ?_, ?_, ?_, fun hm => ?_⟩
  · rw [hlen]
    exact Nat.le_add_right _ _
  · rw [h.log, ← List.map_take, List.take_range, Nat.min_eq_left (Nat.le_add_right _ _)]
  · rw [hlen, Nat.add_assoc]
    exact Nat.add_le_add_left (Nat.add_le_add_right (length_landed_le f k) _) _
  · cases more with
    | nil => exact absurd rfl hm
    | cons m ms => rw [show d = _ from story_eq hist f k m ms]; simp [diskOf]

/-- right after the restart, before any further append, the thread cache is a prefix of the log's seqs
and at most one frame behind (one behind: log line landed, thread cache not yet rebuilt) -/
theorem stale_window (hist : List Frame) (f : Frame) (k : Nat) :
    let d := story true true hist f k []
    d.side <+: d.log.filterMap id ∧ (d.log.filterMap id).length ≤ d.side.length + 1 := by
  intro d
  have h : Opened _ d := story_opened hist f k []
  rw [h.log, filterMap_id_map_some]
  rcases h.side with hs | ⟨s, hb, hs⟩
  · rw [hs]
    exact ⟨List.prefix_refl _, Nat.le_succ _⟩
  · rw [hs, hb, List.range_succ]
    exact ⟨List.prefix_append _ _, Nat.le_of_eq List.length_append⟩

/-! ### the messages+runs sidecar after the restart -/

/-- the frames whose seqs are in the final log, in order -/
def framesInLog (hist : List Frame) (f : Frame) (k : Nat) (more : List Frame) : List Frame :=
  if Reached f k then hist ++ [f] ++ more else hist ++ more

/-- after further appends the messages+runs sidecar is what it should be for `framesInLog` — except
when the crash fell after the sidecar line and before the messages+runs line of an mr frame
(`Short`): then the thread cache agrees with the log, nothing is rebuilt, and the interrupted
frame's seq is missing from the messages+runs sidecar for ever. -/
theorem mr_reconciled_or_short (hist : List Frame) (f : Frame) (k : Nat) (more : List Frame)
    (hm : more ≠ []) :
    let d := story true true hist f k more
    let frames := framesInLog hist f k more
    d.log = (List.range frames.length).map some ∧
    (¬ Short f k → d.mr = mrSeqs frames) ∧
    (Short f k → d.mr = (mrSeqs frames).filter (· ≠ hist.length) ∧ d.mr ≠ mrSeqs frames) := by
  cases more with
  | nil => exact absurd rfl hm
  | cons m ms =>
    rw [story_eq]
    by_cases hs : Short f k
    · -- the frame is in the log and in `frames`, and counts as no message frame on the disk
      have hf : framesInLog hist f k (m :: ms) = hist ++ [f] ++ m :: ms :=
        if_pos (reached_of_short hs)
      have hl : landed f k = [{ f with mr := false }] := by
        unfold landed
        rw [if_pos (reached_of_short hs), if_pos hs]
      rw [hl, hf]
      exact ⟨by simp [diskOf], fun h => absurd hs h, fun _ => mrSeqs_unset hist (m :: ms) hs.1 rfl⟩
    · have hf : framesInLog hist f k (m :: ms) = hist ++ landed f k ++ m :: ms := by
        unfold framesInLog landed
        rw [if_neg hs]
        by_cases hr : Reached f k <;> simp [hr]
      rw [hf]
      exact ⟨rfl, fun _ => rfl, fun h => absurd h hs⟩

theorem mr_reconciled_or_short' (hist : List Frame) (f : Frame) (k : Nat) (more : List Frame)
    (hm : more ≠ []) :
    let d := story true true hist f k more
    let frames := framesInLog hist f k more
    d.mr = mrSeqs frames ∨
      (f.mr = true ∧ (k = 4 ∨ k = 5) ∧ d.mr = (mrSeqs frames).filter (· ≠ hist.length)) := by
  intro d frames
  obtain ⟨_, h1, h2⟩ := mr_reconciled_or_short hist f k more hm
  by_cases hs : Short f k
  · exact .inr ⟨hs.1, hs.2, (h2 hs).1⟩
  · exact .inl (h1 hs)

end Rip.Crash
