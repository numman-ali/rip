import Rip.Model.Frames
import Rip.Lemmas.Basic
/-!
C20 lemmas: the frame store (`push`), the bounded text buffers (`advance`, `pushBounded`) and the
size bounds of the `TuiState::update` fold as one invariant, `Tui.Bounded`. The tool and task tables
are handled by facts about the two list shapes their operations share: a map that replaces the
entries with a key (`mem_map_ite`) and an upsert (`forall_mem_upsert`).
-/
namespace Rip.Frames
open Rip.Proto Rip.Basic

/-- The shape of `updTool` and `updTask`: the entries with the key are replaced by their images. -/
theorem mem_map_ite {α : Type} {c : α → Prop} [DecidablePred c] {g : α → α} {l : List α} {x : α}
    (hx : x ∈ l.map (fun a => if c a then g a else a)) : x ∈ l ∨ ∃ y ∈ l, x = g y := by
  obtain ⟨y, hy, rfl⟩ := List.mem_map.mp hx
  split
  · exact .inr ⟨y, hy, rfl⟩
  · exact .inl hy

theorem forall_mem_map_ite {α : Type} {P c : α → Prop} [DecidablePred c] {g : α → α} {l : List α}
    (h : ∀ x ∈ l, P x) (hg : ∀ x, P x → P (g x)) :
    ∀ x ∈ l.map (fun a => if c a then g a else a), P x := fun x hx => by
  rcases mem_map_ite hx with hx | ⟨y, hy, rfl⟩
  · exact h x hx
  · exact hg y (h y hy)

theorem forall_mem_concat {α : Type} {P : α → Prop} {l : List α} {a : α}
    (h : ∀ x ∈ l, P x) (ha : P a) : ∀ x ∈ l ++ [a], P x :=
  List.forall_mem_append.mpr ⟨h, List.forall_mem_singleton.mpr ha⟩

/-- The shape of `insTool` and `insTask`: `n` replaces the entries with its key, or is appended. -/
theorem forall_mem_upsert {α : Type} {P c : α → Prop} [DecidablePred c] {l : List α} {n : α}
    (h : ∀ x ∈ l, P x) (hn : P n) :
    ∀ x ∈ (if l.any (fun a => c a) then l.map (fun a => if c a then n else a) else l ++ [n]), P x := by
  by_cases hany : l.any (fun a => c a) = true
  · rw [if_pos hany]
    exact forall_mem_map_ite h fun _ _ => hn
  · rw [if_neg hany]
    exact forall_mem_concat h hn

theorem mem_updTool {ts : List Tool} {id : Bytes} {g : Tool → Tool} {x : Tool}
    (hx : x ∈ updTool ts id g) : x ∈ ts ∨ ∃ y ∈ ts, x = g y :=
  mem_map_ite hx

theorem mem_insTool {ts : List Tool} {n x : Tool} (hx : x ∈ insTool ts n) : x ∈ ts ∨ x = n :=
  forall_mem_upsert (P := fun x => x ∈ ts ∨ x = n) (fun _ => .inl) (.inr rfl) x hx

theorem mem_updTask {ts : List Task} {id : Bytes} {g : Task → Task} {x : Task}
    (hx : x ∈ updTask ts id g) : x ∈ ts ∨ ∃ y ∈ ts, x = g y :=
  mem_map_ite hx

theorem mem_insTask {ts : List Task} {n x : Task} (hx : x ∈ insTask ts n) : x ∈ ts ∨ x = n :=
  forall_mem_upsert (P := fun x => x ∈ ts ∨ x = n) (fun _ => .inl) (.inr rfl) x hx

/-! ### `FrameStore.push` -/

theorem push_frames (s : FrameStore) (f : Frame) :
    (s.push f).frames = if s.frames.length ≥ s.cap then s.frames.tail ++ [f] else s.frames ++ [f] := by
  fun_cases FrameStore.push s f with
  | case1 _ h => exact (if_pos h).symm
  | case2 _ h => exact (if_neg h).symm

theorem push_cap (s : FrameStore) (f : Frame) : (s.push f).cap = s.cap := by
  fun_cases FrameStore.push s f <;> rfl

theorem push_len_le (s : FrameStore) (f : Frame) (hc : 1 ≤ s.cap) (h : s.frames.length ≤ s.cap) :
    (s.push f).frames.length ≤ s.cap := by
  rw [push_frames]
  by_cases hfull : s.frames.length ≥ s.cap
  · rw [if_pos hfull, List.length_append, List.length_tail, List.length_singleton,
      Nat.sub_add_cancel (Nat.le_trans hc hfull)]
    exact h
  · rw [if_neg hfull, List.length_append, List.length_singleton]
    exact Nat.not_le.mp hfull

theorem indexOfSeqRaw_base_add (s : FrameStore) {i : Nat} (h : i < s.frames.length) :
    s.indexOfSeqRaw (s.base + i) = some i := by
  unfold FrameStore.indexOfSeqRaw
  rw [if_neg (Nat.ne_of_gt (Nat.zero_lt_of_lt h)), if_neg (Nat.not_lt.mpr (Nat.le_add_right ..)),
    Nat.add_sub_cancel_left, if_neg (Nat.not_le.mpr h)]

/-! ### consecutive seqs -/

/-- `Consec s` of Props/C20 is `ConsecFrom s.base s.frames`; with base and list apart, dropping the
oldest frame and appending the newest are two separate facts -/
def ConsecFrom (b : Nat) (l : List Frame) : Prop := ∀ i (f : Frame), l[i]? = some f → f.seq = b + i

theorem ConsecFrom.nil (b : Nat) : ConsecFrom b [] :=
  fun _ _ h => nomatch h

theorem ConsecFrom.concat {b : Nat} {l : List Frame} (h : ConsecFrom b l) {f : Frame}
    (hf : f.seq = b + l.length) : ConsecFrom b (l ++ [f]) := by
  intro i g hg
  rcases getElem?_concat_some hg with hg | ⟨rfl, rfl⟩
  · exact h i g hg
  · exact hf

theorem ConsecFrom.tail {b : Nat} {l : List Frame} (h : ConsecFrom b l) :
    ConsecFrom (b + 1) l.tail := by
  intro i g hg
  rw [List.getElem?_tail] at hg
  exact (h (i + 1) g hg).trans (Nat.add_right_comm b i 1)

/-! ### bounded text buffers -/

theorem advance_ge (s : Bytes) (start fuel : Nat) : start ≤ advance s start fuel := by
  fun_induction advance s start fuel with
  | case1 => exact Nat.le_refl _
  | case2 _ _ _ ih => exact Nat.le_of_succ_le ih
  | case3 => exact Nat.le_refl _

theorem advance_post (s : Bytes) (start fuel : Nat) (hf : s.length ≤ start + fuel) :
    s.length ≤ advance s start fuel ∨ isBoundary s (advance s start fuel) = true := by
  fun_induction advance s start fuel with
  | case1 => exact .inl hf
  | case2 _ _ _ ih => exact ih (Nat.add_right_comm .. ▸ hf)
  | case3 _ _ h =>
    -- the loop stopped: its condition `start < len ∧ !isBoundary s start` is false
    rw [Decidable.not_and_iff_not_or_not, Nat.not_lt, Bool.not_eq_true', Bool.not_eq_false] at h
    exact h

theorem pushBounded_len (target chunk : Bytes) (maxLen : Nat) (h : target.length ≤ maxLen) :
    (pushBounded target chunk maxLen).1.length ≤ maxLen := by
  fun_cases pushBounded target chunk maxLen with
  | case1 => exact h
  | case2 _ _ hfits => exact hfits
  | case3 _ t _ keep start =>
    -- the cut is at or after `length - maxLen / 2`, so at most half of `maxLen` is kept
    -- (`omega` is many times dearer here, over the truncated subtractions)
    have hcut : t.length ≤ start + keep := Nat.sub_le_iff_le_add.mp (advance_ge ..)
    have hhalf : keep ≤ maxLen := Nat.div_le_self ..
    show (t.drop start).length ≤ maxLen
    rw [List.length_drop]
    exact Nat.sub_le_iff_le_add'.mpr (Nat.le_trans hcut (Nat.add_le_add_left hhalf _))

/-! ### the size bounds as one invariant -/

/-- The three sizes `TuiState` is configured with never change, and every buffer stays within
them. -/
structure Tui.Bounded (cap maxOut maxPrev : Nat) (t : Tui) : Prop where
  cap_eq : t.frames.cap = cap
  maxOut_eq : t.maxOut = maxOut
  maxPrev_eq : t.maxPrev = maxPrev
  cap_pos : 1 ≤ cap
  frames_le : t.frames.frames.length ≤ cap
  out_le : t.output.length ≤ maxOut
  tools_le : ∀ x ∈ t.tools, x.out.length ≤ maxPrev ∧ x.err.length ≤ maxPrev
  tasks_le : ∀ x ∈ t.tasks, x.out.length ≤ maxPrev ∧ x.err.length ≤ maxPrev ∧ x.pty.length ≤ maxPrev

variable {cap maxOut maxPrev : Nat}

theorem Tui.bounded_new (a b c : Nat) : (Tui.new a b c).Bounded (max a 1) (max b 1) c :=
  ⟨rfl, rfl, rfl, Nat.le_max_right _ _, Nat.zero_le _, Nat.zero_le _,
    List.forall_mem_nil _, List.forall_mem_nil _⟩

theorem Tui.Bounded.pushOutput {t : Tui} (h : t.Bounded cap maxOut maxPrev) (d : Bytes) :
    (t.pushOutput d).Bounded cap maxOut maxPrev := by
  obtain rfl := h.maxOut_eq
  exact { h with out_le := pushBounded_len t.output d t.maxOut h.out_le }

theorem Tui.Bounded.head {t : Tui} (h : t.Bounded cap maxOut maxPrev) (f : Frame) :
    (t.head f).Bounded cap maxOut maxPrev := by
  -- none of the fields the bounds speak of changes, so the components of `h` serve as they are
  unfold Tui.head
  extract_lets t1 t2
  have h1 : t1.Bounded cap maxOut maxPrev := by
    unfold t1
    split <;> exact { h with }
  have h2 : t2.Bounded cap maxOut maxPrev := { h1 with }
  split
  · exact { h2 with }
  · exact h2

theorem Tui.Bounded.marks {t : Tui} (h : t.Bounded cap maxOut maxPrev) (f : Frame) :
    (t.marks f).Bounded cap maxOut maxPrev := by
  -- every kind sets a timing mark at most; `sessionStarted` with a prompt (case 2) and
  -- `outputTextDelta` (case 7) also push to the output buffer
  fun_cases Tui.marks t f with
  | case2 =>
    refine ((Bounded.pushOutput ?_ _).pushOutput _).pushOutput _
    exact { h with }
  | case7 =>
    refine Bounded.pushOutput ?_ _
    exact { h with }
  | _ => exact { h with }

theorem Tui.Bounded.ingest {t : Tui} (h : t.Bounded cap maxOut maxPrev) (f : Frame) :
    (t.ingest f).Bounded cap maxOut maxPrev := by
  obtain rfl := h.maxPrev_eq
  -- tool started, stdout, stderr, ended, failed; task spawned, status (known id, new id), delta; rest
  fun_cases Tui.ingest t f
  · exact { h with tools_le := forall_mem_upsert h.tools_le ⟨Nat.zero_le _, Nat.zero_le _⟩ }
  · exact { h with tools_le :=
      forall_mem_map_ite h.tools_le fun _ => And.imp_left (pushBounded_len _ _ _) }
  · exact { h with tools_le :=
      forall_mem_map_ite h.tools_le fun _ => And.imp_right (pushBounded_len _ _ _) }
  · exact { h with tools_le := forall_mem_map_ite h.tools_le fun _ hx => hx }
  · exact { h with tools_le := forall_mem_map_ite h.tools_le fun _ hx => hx }
  · exact { h with tasks_le := forall_mem_upsert h.tasks_le ⟨Nat.zero_le _, Nat.zero_le _, Nat.zero_le _⟩ }
  · exact { h with tasks_le := forall_mem_map_ite h.tasks_le fun _ hx => hx }
  · exact { h with tasks_le :=
      forall_mem_concat h.tasks_le ⟨Nat.zero_le _, Nat.zero_le _, Nat.zero_le _⟩ }
  · refine { h with tasks_le := forall_mem_map_ite h.tasks_le fun x => ?_ }
    split
    · exact And.imp_left (pushBounded_len _ _ _)
    · exact And.imp_right (And.imp_left (pushBounded_len _ _ _))
    · exact And.imp_right (And.imp_right (pushBounded_len _ _ _))
  · exact h

theorem Tui.Bounded.store {t : Tui} (h : t.Bounded cap maxOut maxPrev) (f : Frame) :
    (t.store f).Bounded cap maxOut maxPrev := by
  obtain rfl := h.cap_eq
  have hl := push_len_le t.frames f h.cap_pos h.frames_le
  fun_cases Tui.store t f <;> exact { h with cap_eq := push_cap .., frames_le := hl }

theorem Tui.Bounded.update {t : Tui} (h : t.Bounded cap maxOut maxPrev) (f : Frame) :
    (t.update f).Bounded cap maxOut maxPrev :=
  (((h.head f).marks f).ingest f).store f

theorem Tui.Bounded.run {t : Tui} (h : t.Bounded cap maxOut maxPrev) (fs : List Frame) :
    (t.run fs).Bounded cap maxOut maxPrev :=
  foldl_inv (fun _ f h => h.update f) fs t h

end Rip.Frames
