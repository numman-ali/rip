/-!
Facts about lists, folds and options that the model-specific lemma files share. In the
transition-system files a run is a `foldl` of the step function over a schedule, and a step replaces
one entry of the list of per-process records (`List.set`).
-/
namespace Rip.Basic

theorem foldl_inv {σ α : Type} {f : σ → α → σ} {P : σ → Prop} (hstep : ∀ s a, P s → P (f s a))
    (sched : List α) (s : σ) (h : P s) : P (sched.foldl f s) :=
  List.foldlRecOn sched f h fun s hs a _ => hstep s a hs

/-- the same with an invariant that may mention the input consumed so far -/
theorem foldl_hist_inv {σ α : Type} {f : σ → α → σ} {Inv : List α → σ → Prop}
    (step : ∀ pre s x, Inv pre s → Inv (pre ++ [x]) (f s x)) (l : List α) {pre : List α} {s : σ}
    (h : Inv pre s) : Inv (pre ++ l) (l.foldl f s) := by
  induction l generalizing pre s with
  | nil => rwa [List.append_nil]
  | cons x l ih =>
    rw [List.foldl_cons, List.append_cons]
    exact ih (step _ _ _ h)

/-- … when the input comes in chunks and the invariant speaks of their concatenation -/
theorem foldl_flatten_inv {σ α : Type} {f : σ → List α → σ} {Inv : List α → σ → Prop}
    (step : ∀ pre s x, Inv pre s → Inv (pre ++ x) (f s x)) (cs : List (List α)) {pre : List α}
    {s : σ} (h : Inv pre s) : Inv (pre ++ cs.flatten) (cs.foldl f s) := by
  induction cs generalizing pre s with
  | nil => simpa using h
  | cons c cs ih =>
    rw [List.foldl_cons, List.flatten_cons, ← List.append_assoc]
    exact ih (step _ _ _ h)

theorem exists_foldl_of_measure {σ α : Type} {f : σ → α → σ} {P goal : σ → Prop} (m : σ → Nat)
    (keep : ∀ s a, P s → P (f s a)) (lower : ∀ s, P s → ¬ goal s → ∃ a, m (f s a) < m s) :
    ∀ s, P s → ∃ more : List α, goal (more.foldl f s) := by
  have h : ∀ n s, P s → m s < n → ∃ more : List α, goal (more.foldl f s) := by
    intro n
    induction n with
    | zero => exact fun s _ hm => absurd hm (Nat.not_lt_zero _)
    | succ n ih =>
      intro s hP hm
      by_cases hg : goal s
      · exact ⟨[], hg⟩
      · obtain ⟨a, ha⟩ := lower s hP hg
        obtain ⟨more, hmore⟩ := ih (f s a) (keep s a hP) (by omega)
        exact ⟨a :: more, hmore⟩
  exact fun s hP => h _ s hP (Nat.lt_succ_self _)

theorem getElem?_set_self_of_some {α : Type} {l : List α} {i : Nat} {a : α} (a' : α) (h : l[i]? = some a) :
    (l.set i a')[i]? = some a' :=
  List.getElem?_set_self (List.getElem?_eq_some_iff.1 h).1

theorem getElem?_set_cases {α : Type} {l : List α} {i j : Nat} {a' b : α}
    (h : (l.set i a')[j]? = some b) : (j = i ∧ b = a') ∨ (j ≠ i ∧ l[j]? = some b) := by
  by_cases hij : i = j
  · subst hij
    rw [List.getElem?_set, if_pos rfl] at h
    split at h
    · exact Or.inl ⟨rfl, (Option.some.inj h).symm⟩
    · cases h
  · rw [List.getElem?_set_ne hij] at h
    exact Or.inr ⟨fun e => hij e.symm, h⟩

theorem forall_set {α : Type} {l : List α} {i : Nat} {a' : α} {Q : Nat → α → Prop}
    (hothers : ∀ j b, j ≠ i → l[j]? = some b → Q j b) (hself : Q i a') :
    ∀ j b, (l.set i a')[j]? = some b → Q j b := by
  intro j b h
  rcases getElem?_set_cases h with ⟨rfl, rfl⟩ | ⟨hne, h⟩
  · exact hself
  · exact hothers j b hne h

theorem getElem?_set_keep {α : Type} {l : List α} {i j : Nat} {a a' : α} {Q : α → Prop}
    (hi : l[i]? = some a) (hQ : Q a → Q a') (h : ∃ b, l[j]? = some b ∧ Q b) :
    ∃ b, (l.set i a')[j]? = some b ∧ Q b := by
  obtain ⟨b, hb, hq⟩ := h
  by_cases hij : i = j
  · subst hij
    cases hi.symm.trans hb
    exact ⟨a', getElem?_set_self_of_some a' hi, hQ hq⟩
  · exact ⟨b, (List.getElem?_set_ne hij).trans hb, hq⟩

theorem getElem?_concat_some {α : Type} {l : List α} {a b : α} {i : Nat}
    (h : (l ++ [b])[i]? = some a) : l[i]? = some a ∨ (i = l.length ∧ a = b) := by
  rw [List.getElem?_append] at h
  split at h
  · exact .inl h
  · obtain ⟨hi, rfl⟩ := List.getElem?_eq_some_iff.mp h
    exact .inr ⟨by simp at hi; omega, by simp⟩

theorem snoc_induction {α : Type} {P : List α → Prop} (nil : P [])
    (snoc : ∀ l a, P l → P (l ++ [a])) : ∀ l, P l := by
  intro l
  have : ∀ r : List α, P r.reverse := by
    intro r
    induction r with
    | nil => exact nil
    | cons a r ih => simpa using snoc _ a ih
  simpa using this l.reverse

theorem pairwise_snoc {α : Type} {R : α → α → Prop} {l : List α} {a : α} :
    (l ++ [a]).Pairwise R ↔ l.Pairwise R ∧ ∀ b ∈ l, R b a := by
  simp only [List.pairwise_append, List.pairwise_singleton, true_and, List.forall_mem_singleton]

/-- stated with the difference `k`, so that its users add and never subtract -/
theorem sum_map_set {α : Type} (f : α → Nat) {l : List α} {i : Nat} {a a' : α} (k : Nat)
    (hi : l[i]? = some a) (hk : f a' + k = f a) : ((l.set i a').map f).sum + k = (l.map f).sum := by
  induction l generalizing i with
  | nil => cases hi
  | cons b bs ih =>
    cases i with
    | zero =>
      cases hi
      simp only [List.set_cons_zero, List.map_cons, List.sum_cons]
      rw [Nat.add_right_comm, hk]
    | succ n =>
      simp only [List.set_cons_succ, List.map_cons, List.sum_cons]
      rw [Nat.add_assoc, ih hi]

theorem sum_map_set_lt {α : Type} (f : α → Nat) {l : List α} {i : Nat} {a a' : α}
    (hi : l[i]? = some a) (hlt : f a' < f a) : ((l.set i a').map f).sum < (l.map f).sum := by
  have := sum_map_set f (a' := a') (f a - f a') hi (by omega)
  omega

theorem filter_length_le_one {α : Type} (p : α → Bool) :
    ∀ (l : List α),
      (∀ (i j : Nat) (a b : α), l[i]? = some a → l[j]? = some b → p a = true → p b = true → i = j) →
      (l.filter p).length ≤ 1
  | [], _ => Nat.zero_le 1
  | a :: l, h => by
    have ih := filter_length_le_one p l (fun i j a' b' hi hj ha' hb' =>
      Nat.succ.inj (h (i + 1) (j + 1) a' b' hi hj ha' hb'))
    by_cases ha : p a = true
    · have hnil : l.filter p = [] := by
        rw [List.filter_eq_nil_iff]
        intro b hb hpb
        obtain ⟨k, hk⟩ := List.getElem?_of_mem hb
        exact Nat.noConfusion (h 0 (k + 1) a b rfl hk ha hpb)
      rw [List.filter_cons_of_pos ha, hnil]
      exact Nat.le_refl 1
    · rw [List.filter_cons_of_neg ha]
      exact ih

theorem le_getLast_of_pairwise {α : Type} (g : α → Nat) {l : List α}
    (hs : l.Pairwise (fun a b => g a < g b)) {x : α} (hx : l.getLast? = some x) :
    ∀ u ∈ l, g u ≤ g x := by
  obtain ⟨ys, rfl⟩ := List.getLast?_eq_some_iff.1 hx
  intro u hu
  rcases List.mem_append.1 hu with hu | hu
  · exact Nat.le_of_lt ((pairwise_snoc.1 hs).2 u hu)
  · rw [List.mem_singleton.1 hu]
    exact Nat.le_refl _

/-- a lock that is free or held by `i` is held by nobody else -/
theorem eq_of_free_or_held {α : Type} {o : Option α} {i j : α} (hfree : o = none ∨ o = some i)
    (hj : o = some j) : j = i :=
  hfree.elim (fun h => nomatch h.symm.trans hj) fun h => Option.some.inj (hj.symm.trans h)

/-! The dismissals of the stages of a walk that fail, stated once: an `exact nofun` at each
stage elaborates a fresh match. -/

theorem error_ne_ok {ε α : Type} {P : Prop} {e : ε} {a : α} : Except.error e = Except.ok a → P := nofun

theorem none_ne_some {α : Type} {P : Prop} {a : α} : none = some a → P := nofun

end Rip.Basic
