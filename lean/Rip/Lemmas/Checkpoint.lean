import Rip.Model.Checkpoint
import Rip.Lemmas.FS
/-!
C14: the checkpoint / rewind model (`Rip.Checkpoint`). `create` records the content of its paths
(`Rec`), and so does the pre-read of a rewind on the state it starts from. The apply phase is a chain
of framed steps (`Run`); if all succeed every covered path has its recorded content. A failing rewind
keeps `PInv` through the apply phase and through the rollback, whose steps are `FS.restore` of the
pre-read, so it ends where it started.
-/
namespace Rip.Checkpoint
open Rip.Proto Rip.Patch Rip.Paths Rip.Basic

/-! ### what a read records -/

/-- `v` is what reading `p` on `fs` records: its content, and a directory is not recorded as absent -/
def Rec (fs : FS) (p : Path) (v : Option Bytes) : Prop :=
  v = fs.file p ∧ (v = none → fs.dir p = false)

theorem Rec.absent {fs : FS} {p : Path} (h : fs.exists p = false) : Rec fs p none :=
  ⟨(exists_eq_false.mp h).1.symm, fun _ => (exists_eq_false.mp h).2⟩

theorem Rec.present {fs : FS} {p : Path} {b : Bytes} (h : fs.file p = some b) : Rec fs p (some b) :=
  ⟨h.symm, nofun⟩

theorem Rec.not_dir {fs : FS} {p : Path} {v : Option Bytes} (hwf : WF fs) (h : Rec fs p v) :
    fs.dir p = false := by
  cases v with
  | none => exact h.2 rfl
  | some b => exact hwf.2.1 p (h.1 ▸ nofun)

theorem snapshotOne_false {fs : FS} {p : Path} {e : Entry} : snapshotOne fs p false = .ok e →
    e.mustDir = false ∧ Rec fs e.path e.content := by
  rw [snapshotOne, if_neg Bool.false_ne_true]
  cases hex : fs.exists p with
  | false =>
    intro h
    cases h
    exact ⟨rfl, .absent hex⟩
  | true =>
    cases hb : fs.file p with
    | none => exact error_ne_ok
    | some b =>
      intro h
      cases h
      exact ⟨rfl, .present hb⟩

theorem snapshotAll_rec {fs : FS} (ps : List (Path × Bool)) (ck : Ckpt)
    (hm : ∀ pm ∈ ps, pm.2 = false) :
    snapshotAll fs ps = .ok ck → ∀ e ∈ ck, e.mustDir = false ∧ Rec fs e.path e.content := by
  fun_induction snapshotAll fs ps generalizing ck with
  | case1 =>
    intro h
    cases h
    exact List.forall_mem_nil _
  | case2 => exact error_ne_ok
  | case3 => exact error_ne_ok
  | case4 p m rest e0 h0 es hes ih =>
    intro h
    cases h
    obtain ⟨hmf, hm'⟩ := List.forall_mem_cons.mp hm
    cases hmf
    exact List.forall_mem_cons.mpr ⟨snapshotOne_false h0, ih es hm' hes⟩

theorem validateAll_false {rootRaw : Bytes} (raws : List Bytes) (ps : List (Path × Bool)) :
    validateAll rootRaw raws = .ok ps → ∀ pm ∈ ps, pm.2 = false := by
  fun_induction validateAll rootRaw raws generalizing ps with
  | case1 =>
    intro h
    cases h
    exact List.forall_mem_nil _
  | case2 => exact error_ne_ok
  | case3 => exact error_ne_ok
  | case4 raw rest rel _ ps0 hps0 ih =>
    intro h
    cases h
    exact List.forall_mem_cons.mpr ⟨rfl, ih ps0 hps0⟩

theorem create_rec {rootRaw : Bytes} {fs0 : FS} {raws : List Bytes} {ck : Ckpt} :
    create rootRaw fs0 raws = .ok ck → ∀ e ∈ ck, e.mustDir = false ∧ Rec fs0 e.path e.content := by
  unfold create
  cases hps : validateAll rootRaw raws with
  | error _ => exact error_ne_ok
  | ok ps => exact snapshotAll_rec ps ck (validateAll_false raws ps hps)

/-! ### the apply phase -/

/-- What `applyEntries fs es = (fs', ok)` does: a chain of steps, one per entry, each framed by
`Touches` on the entry's path. A step that succeeds leaves the entry's content there (for an entry
that need not be a directory; one that must be is skipped); the first that fails ends the run in
whatever state it reached. -/
inductive Run : FS → Ckpt → FS → Bool → Prop
  | done (fs : FS) : Run fs [] fs true
  | fail {fs fs1 : FS} {e : Entry} {es : Ckpt} :
      Touches e.path (e.content ≠ none) fs fs1 → Run fs (e :: es) fs1 false
  | step {fs fs1 fs' : FS} {e : Entry} {es : Ckpt} {ok : Bool} :
      Touches e.path (e.content ≠ none) fs fs1 →
      (e.mustDir = false → fs1.file e.path = e.content) →
      Run fs1 es fs' ok → Run fs (e :: es) fs' ok

theorem run_applyEntries (fs : FS) (es : Ckpt) :
    Run fs es (applyEntries fs es).1 (applyEntries fs es).2 := by
  fun_induction applyEntries fs es with
  | case1 fs => exact .done fs
  -- content `some b`: `createDirAll` fails; `write` fails; both succeed
  | case2 fs e es b hb hc => exact .fail (.refl _ _ _)
  | case3 fs e es b hb fs1 hc hw => exact .fail (.createDirAll (hb ▸ nofun) hc)
  | case4 fs e es b hb fs1 hc fs2 hw ih =>
    refine .step ((Touches.createDirAll (hb ▸ nofun) hc).trans (.write hw)) (fun _ => ?_) ih
    obtain ⟨_, _, _, rfl⟩ := write_some hw
    rw [hb]
    exact if_pos rfl
  -- content `none`: `mustDir`; the path exists and `removeFile` fails, or succeeds; it is absent
  | case5 fs e es hn hm ih => exact .step (.refl _ _ _) (fun h => by rw [hm] at h; cases h) ih
  | case6 fs e es hn hm hex hr => exact .fail (.refl _ _ _)
  | case7 fs e es hn hm hex fs1 hr ih =>
    refine .step (.removeFile hr) (fun _ => ?_) ih
    obtain ⟨_, rfl⟩ := removeFile_some hr
    rw [hn]
    exact if_pos rfl
  | case8 fs e es hn hm hex ih =>
    refine .step (.refl _ _ _) (fun _ => ?_) ih
    rw [hn]
    exact (exists_eq_false.mp (Bool.not_eq_true _ ▸ hex)).1

theorem Run.inv {P : FS → Prop} {fs fs' : FS} {es : Ckpt} {ok : Bool} (h : Run fs es fs' ok)
    (hstep : ∀ e ∈ es, ∀ f f', P f → Touches e.path (e.content ≠ none) f f' → P f') :
    P fs → P fs' := by
  induction h with
  | done => exact id
  | fail ht => exact fun h0 => hstep _ (List.mem_cons_self ..) _ _ h0 ht
  | step ht _ _ ih =>
    exact fun h0 => ih (fun e he => hstep e (List.mem_cons_of_mem _ he))
      (hstep _ (List.mem_cons_self ..) _ _ h0 ht)

theorem Run.untouched {fs fs' : FS} {es : Ckpt} {ok : Bool} (h : Run fs es fs' ok) (q : Path)
    (hq : q ∉ es.map Entry.path) : fs'.file q = fs.file q :=
  h.inv (P := fun f => f.file q = fs.file q)
    (fun _ he _ _ hP ht => (ht.file q fun hp => hq (hp ▸ List.mem_map_of_mem he)).trans hP) rfl

/-- a successful run leaves every listed path with its listed content, and what already had it stays
so; `f` assigns the contents, so entries with equal paths carry equal content -/
theorem Run.exact (f : Path → Option Bytes) {fs fs' : FS} {es : Ckpt} {ok : Bool}
    (h : Run fs es fs' ok) (hok : ok = true)
    (hrec : ∀ e ∈ es, e.mustDir = false ∧ e.content = f e.path) :
    ∀ q, (fs.file q = f q ∨ q ∈ es.map Entry.path) → fs'.file q = f q := by
  induction h with
  | done => exact fun q hq => hq.resolve_right List.not_mem_nil
  | fail => cases hok
  | step ht hl _ ih =>
    obtain ⟨hm, hc⟩ := hrec _ (List.mem_cons_self ..)
    exact fun q hq => ih hok (fun e he => hrec e (List.mem_cons_of_mem _ he)) q
      (ht.agree ((hl hm).trans hc) hq)

/-! ### the pre-read phase -/

/-- what `preRead` records for an entry that need not be a directory (its `cur` at `mustDir = false`) -/
theorem read_rec {fs : FS} {p : Path} {v : Option Bytes} :
    (if fs.exists p then (match fs.file p with | some b => some (some b) | none => none)
      else some none) = some v → Rec fs p v := by
  cases hex : fs.exists p with
  | false =>
    intro h
    cases h
    exact .absent hex
  | true =>
    cases hb : fs.file p with
    | none => exact none_ne_some
    | some b =>
      intro h
      cases h
      exact .present hb

theorem preRead_some {fs : FS} (ck : Ckpt) (undo : List (Path × Option Bytes)) :
    preRead fs ck = some undo →
    undo.map Prod.fst = ck.map Entry.path ∧
    ((∀ e ∈ ck, e.mustDir = false) → ∀ pv ∈ undo, Rec fs pv.1 pv.2) := by
  fun_induction preRead fs ck generalizing undo with
  | case1 =>
    intro h
    cases h
    exact ⟨rfl, fun _ => List.forall_mem_nil _⟩
  | case2 => exact none_ne_some
  | case3 => exact none_ne_some
  | case4 e es cur v hv rest hrest ih =>
    intro h
    cases h
    obtain ⟨ikeys, irec⟩ := ih rest hrest
    refine ⟨by rw [List.map_cons, List.map_cons, ikeys], fun hm => ?_⟩
    obtain ⟨hme, hm'⟩ := List.forall_mem_cons.mp hm
    -- `hv : cur = some v`, and `cur` at `mustDir = false` is the read of `read_rec`
    exact List.forall_mem_cons.mpr
      ⟨read_rec ((if_neg (Bool.eq_false_iff.mp hme)).symm.trans hv), irec hm'⟩

/-! ### the rollback -/

theorem rollback_cons (fs : FS) (p : Path) (v : Option Bytes) (rest : List (Path × Option Bytes)) :
    rollback fs ((p, v) :: rest) = rollback (fs.restore p v) rest := by
  cases v <;> rfl

theorem rollback_untouched : ∀ (undo : List (Path × Option Bytes)) (fs : FS) (q : Path),
    q ∉ undo.map Prod.fst → (rollback fs undo).file q = fs.file q := by
  intro undo
  induction undo with
  | nil =>
    intro fs q _
    rfl
  | cons pv rest ih =>
    intro fs q hq
    obtain ⟨p, v⟩ := pv
    rw [rollback_cons, ih _ q (List.not_mem_of_not_mem_cons hq)]
    exact (restore_touches fs p v).file q (List.ne_of_not_mem_cons hq)

/-! ### the three phases together -/

/-- how a rewind ends: the pre-read refuses and nothing is done, or the apply phase runs, followed
by the rollback if it failed -/
theorem rewind_run {fs fs' : FS} {ck : Ckpt} {ok : Bool} : rewind fs ck = (ok, fs') →
    (preRead fs ck = none ∧ ok = false ∧ fs' = fs) ∨
    ∃ undo fsm, preRead fs ck = some undo ∧ Run fs ck fsm ok ∧
      fs' = if ok then fsm else rollback fsm undo := by
  have hrun := run_applyEntries fs ck
  fun_cases rewind fs ck with
  | case1 hu =>
    rintro ⟨⟩
    exact .inl ⟨hu, rfl, rfl⟩
  | case2 undo hu fsm ha =>
    rintro ⟨⟩
    rw [ha] at hrun
    exact .inr ⟨undo, _, hu, hrun, rfl⟩
  | case3 undo hu fsm ha =>
    rintro ⟨⟩
    rw [ha] at hrun
    exact .inr ⟨undo, _, hu, hrun, rfl⟩

/-- `fs1` is arbitrary: whatever happened in between, a successful rewind puts back the bytes, or
the absence, of every covered path -/
theorem rewind_exact (rootRaw : Bytes) (fs0 fs1 fs' : FS) (raws : List Bytes) (ck : Ckpt)
    (hc : create rootRaw fs0 raws = .ok ck) (hr : rewind fs1 ck = (true, fs')) :
    ∀ e ∈ ck, fs'.file e.path = fs0.file e.path := by
  obtain ⟨_, ⟨⟩, _⟩ | ⟨undo, fsm, _, ha, rfl⟩ := rewind_run hr
  exact fun e he => ha.exact fs0.file rfl
    (fun e' he' => ⟨(create_rec hc e' he').1, (create_rec hc e' he').2.1⟩) e.path
    (.inr (List.mem_map_of_mem he))

theorem rewind_only_covered (fs1 fs' : FS) (ck : Ckpt) (ok : Bool)
    (hr : rewind fs1 ck = (ok, fs')) :
    ∀ q, (∀ e ∈ ck, e.path ≠ q) → fs'.file q = fs1.file q := by
  intro q hq
  have hk : q ∉ ck.map Entry.path := by
    intro hmem
    obtain ⟨e, he, hp⟩ := List.mem_map.mp hmem
    exact hq e he hp
  rcases rewind_run hr with ⟨_, _, rfl⟩ | ⟨undo, fsm, hu, ha, rfl⟩
  · rfl
  · -- the apply phase leaves `q` alone, and so does the rollback if there is one
    refine Eq.trans ?_ (ha.untouched q hk)
    cases ok
    · exact rollback_untouched undo fsm q ((preRead_some ck undo hu).1 ▸ hk)
    · rfl

/-! ### a failed rewind restores every file -/

/-- invariant of both phases of a failing rewind, relative to the state `fs1` it started from:
directories only grow, and no covered path is a directory -/
structure PInv (fs1 fs : FS) (cov : Path → Prop) : Prop where
  dirs : ∀ q, fs1.dir q = true → fs.dir q = true
  ndir : ∀ q, cov q → fs.dir q = false

theorem PInv.ndir1 {fs1 fs : FS} {cov : Path → Prop} (hi : PInv fs1 fs cov) (q : Path)
    (hq : cov q) : fs1.dir q = false :=
  Bool.eq_false_iff.mpr fun hd => Bool.eq_false_iff.mp (hi.ndir q hq) (hi.dirs q hd)

/-- Both phases put back values `v` read on a well-formed `fsr` (the checkpointed state, then `fs1`)
in which no covered path is a directory. -/
theorem PInv.put {fsr fs1 fs fs2 : FS} {cov : Path → Prop} {p : Path} {v : Option Bytes}
    (hi : PInv fs1 fs cov) (hwf : WF fsr) (hnd : ∀ q, cov q → fsr.dir q = false)
    (hv : v = fsr.file p) (h : Touches p (v ≠ none) fs fs2) : PInv fs1 fs2 cov := by
  refine ⟨fun q hq => h.mono q (hi.dirs q hq), fun q hq => Bool.eq_false_iff.mpr fun hd => ?_⟩
  rcases h.new q hd with h1 | ⟨hc, hpre⟩
  · rw [hi.ndir q hq] at h1
    cases h1
  · -- a directory made on the way to `p` lies above a file of `fsr`
    have := (hwf.above_file (hv ▸ hc)).2 q hpre
    rw [hnd q hq] at this
    cases this

theorem PInv.restore_file {fs1 fs : FS} {cov : Path → Prop} {p : Path} (hwf1 : WF fs1)
    (hi : PInv fs1 fs cov) (hcov : cov p) : (fs.restore p (fs1.file p)).file p = fs1.file p := by
  cases hv : fs1.file p with
  | none => exact restore_none_file fs p
  | some b =>
    obtain ⟨hp, hpar⟩ := hwf1.above_file (by rw [hv]; nofun)
    exact restore_some_file fs b hp (hi.ndir p hcov) (hi.dirs _ (hpar _ (List.prefix_refl _)))

theorem rollback_restores {fs1 : FS} {cov : Path → Prop} (hwf1 : WF fs1) :
    ∀ (undo : List (Path × Option Bytes)) (fs : FS),
      (∀ pv ∈ undo, cov pv.1 ∧ pv.2 = fs1.file pv.1) → PInv fs1 fs cov →
      (∀ q, fs.file q = fs1.file q ∨ q ∈ undo.map Prod.fst) →
      ∀ q, (rollback fs undo).file q = fs1.file q := by
  intro undo
  induction undo with
  | nil => exact fun fs _ _ hsame q => (hsame q).resolve_right List.not_mem_nil
  | cons pv rest ih =>
    intro fs hu hi hsame
    obtain ⟨p, v⟩ := pv
    obtain ⟨hcov, (hv : v = fs1.file p)⟩ := hu (p, v) (List.mem_cons_self ..)
    subst hv
    have ht := restore_touches fs p (fs1.file p)
    rw [rollback_cons]
    exact ih _ (fun pv hpv => hu pv (List.mem_cons_of_mem _ hpv)) (hi.put hwf1 hi.ndir1 rfl ht)
      fun q => ht.agree (hi.restore_file hwf1 hcov) (hsame q)

theorem rewind_fail_noop (rootRaw : Bytes) (fs0 fs1 fs' : FS) (raws : List Bytes) (ck : Ckpt)
    (hwf0 : WF fs0) (hwf1 : WF fs1)
    (hc : create rootRaw fs0 raws = .ok ck) (hr : rewind fs1 ck = (false, fs')) :
    ∀ q, fs'.file q = fs1.file q := by
  have hrec := create_rec hc
  rcases rewind_run hr with ⟨_, _, rfl⟩ | ⟨undo, fsm, hu, ha, rfl⟩
  · exact fun _ => rfl
  obtain ⟨hkeys, hval⟩ := preRead_some ck undo hu
  have hundo := hval fun e he => (hrec e he).1
  have hnd0 : ∀ q, q ∈ ck.map Entry.path → fs0.dir q = false := by
    intro q hq
    obtain ⟨e, he, rfl⟩ := List.mem_map.mp hq
    exact (hrec e he).2.not_dir hwf0
  have hnd1 : ∀ q, q ∈ ck.map Entry.path → fs1.dir q = false := by
    intro q hq
    obtain ⟨pv, hpv, rfl⟩ := List.mem_map.mp (hkeys ▸ hq)
    exact (hundo pv hpv).not_dir hwf1
  have hmid : PInv fs1 fsm (· ∈ ck.map Entry.path) :=
    ha.inv (P := (PInv fs1 · (· ∈ ck.map Entry.path)))
      (fun e he _ _ hi ht => hi.put hwf0 hnd0 (hrec e he).2.1 ht) ⟨fun _ h => h, hnd1⟩
  refine rollback_restores hwf1 undo fsm
    (fun pv hpv => ⟨hkeys ▸ List.mem_map_of_mem hpv, (hundo pv hpv).1⟩) hmid fun q => ?_
  refine (Classical.em (q ∈ undo.map Prod.fst)).symm.imp_left fun hq => ?_
  exact ha.untouched q (hkeys ▸ hq)

end Rip.Checkpoint
