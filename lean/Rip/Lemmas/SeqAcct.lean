import Rip.Model.SeqAcct
/-!
C01: a token list that keeps the discipline (`wellFormed`) numbers its frames `ctr, ctr + 1, …` and
leaves the counter behind the last one, from any state (`run_wellFormed`); `numbered` is its instance.
-/
namespace Rip.SeqAcct

theorem run_wellFormed (ts : List Tok) (ms : List Nat) (s : St) (h : wellFormed ts = true) :
    ∃ n, run ts ms s = ⟨s.ctr + n, s.frames ++ List.range' s.ctr n⟩ := by
  fun_induction wellFormed ts generalizing ms s with
  | case1 => exact ⟨0, by simp [run]⟩
  | case2 ts ih =>
    obtain ⟨n, hn⟩ := ih ms ⟨s.ctr + 1, s.frames ++ [s.ctr]⟩ h
    refine ⟨n + 1, hn.trans ?_⟩
    rw [List.range'_succ, List.append_assoc, Nat.add_right_comm]
    rfl
  | case3 ts ih =>
    obtain ⟨n, hn⟩ := ih ms.tail ⟨s.ctr + ms.headD 0, s.frames ++ List.range' s.ctr (ms.headD 0)⟩ h
    refine ⟨ms.headD 0 + n, hn.trans ?_⟩
    rw [← List.range'_append_1, List.append_assoc, Nat.add_assoc]
  | case4 => cases h

theorem numbered (ts : List Tok) (ms : List Nat) (n : Nat) (h : wellFormed ts = true) :
    (run ts ms ⟨n, []⟩).frames = List.range' n (run ts ms ⟨n, []⟩).frames.length ∧
    (run ts ms ⟨n, []⟩).ctr = n + (run ts ms ⟨n, []⟩).frames.length := by
  obtain ⟨k, hk⟩ := run_wellFormed ts ms ⟨n, []⟩ h
  simp [hk]

end Rip.SeqAcct
