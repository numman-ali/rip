import Rip.Lemmas.Sse
import Rip.Lemmas.Utf8
import Rip.Lemmas.Basic
/-!
C15: byte-level chunk invariance of the provider pipe, and the numbering of its frames.
What the UTF-8 carry buffer turns a byte string into is the relation `Lossy`, which composes under `++`;
`drain` computes it, so the read loop is, as far as can be observed, one `pushStr` of the lossy decoding
of everything read so far (`After`), however the bytes were chunked.
-/
namespace Rip.Sse
open Rip.Proto Rip.Utf8 Rip.Basic

theorem step_nil : step [] = .incomplete := rfl

/-! ### lossy decoding of a carry buffer

`Lossy s t l`: scanning `s` scalar by scalar, copying complete scalars, replacing every maximal
invalid sequence by U+FFFD and stopping at an incomplete tail, yields the text `t` and the
leftover (incomplete tail, or `[]`) `l`. -/

inductive Lossy : Bytes → Bytes → Bytes → Prop
  | nil : Lossy [] [] []
  | ok {s t l : Bytes} {n : Nat} :
      step s = .ok n → Lossy (s.drop n) t l → Lossy s (s.take n ++ t) l
  | invalid {s t l : Bytes} {e : Nat} :
      step s = .invalid e → Lossy (s.drop e) t l → Lossy s (fffd ++ t) l
  | incomplete {s : Bytes} : s ≠ [] → step s = .incomplete → Lossy s [] s

theorem lossy_exists (s : Bytes) : ∃ t l, Lossy s t l := by
  induction s using (measure List.length).wf.induction with
  | _ s ih =>
    by_cases hne : s = []
    · exact hne ▸ ⟨[], [], .nil⟩
    cases hst : step s with
    | ok k =>
      obtain ⟨_, _, h⟩ := ih _ (step_drop_lt (.inl hst))
      exact ⟨_, _, .ok hst h⟩
    | invalid e =>
      obtain ⟨_, _, h⟩ := ih _ (step_drop_lt (.inr hst))
      exact ⟨_, _, .invalid hst h⟩
    | incomplete => exact ⟨_, _, .incomplete hne hst⟩

theorem Lossy.append {a t l b t' l' : Bytes} (h : Lossy a t l) (h' : Lossy (l ++ b) t' l') :
    Lossy (a ++ b) (t ++ t') l' := by
  induction h with
  | nil => exact h'
  | @ok s t0 l0 n hs _ ih =>
    have hb := (step_bound (.inl hs)).2
    rw [List.append_assoc, ← List.take_append_of_le_length (l₂ := b) hb]
    refine .ok (step_append b hs nofun) ?_
    rw [List.drop_append_of_le_length hb]
    exact ih h'
  | @invalid s t0 l0 e hs _ ih =>
    rw [List.append_assoc]
    refine .invalid (step_append b hs nofun) ?_
    rw [List.drop_append_of_le_length (step_bound (.inr hs)).2]
    exact ih h'
  | incomplete hne hs => exact h'

theorem Lossy.of_incomplete {s t l : Bytes} (hs : step s = .incomplete) (h : Lossy s t l) :
    t = [] ∧ l = s := by
  cases h with
  | nil | incomplete => exact ⟨rfl, rfl⟩
  | ok h1 | invalid h1 => cases hs.symm.trans h1

theorem Lossy.of_invalid {s t l : Bytes} {e : Nat} (hs : step s = .invalid e) (h : Lossy s t l) :
    ∃ t', t = fffd ++ t' ∧ Lossy (s.drop e) t' l := by
  cases h with
  | nil => cases hs
  | ok h1 | incomplete _ h1 => cases hs.symm.trans h1
  | invalid h1 h2 =>
    cases hs.symm.trans h1
    exact ⟨_, rfl, h2⟩

/-! ### `validate` in terms of `Lossy` -/

/-- What a verdict of `validate` on `u` says of a lossy decoding `t`, `l` of `u`: all of it copied;
a copied prefix and the rest left over; or a copied prefix, one U+FFFD, and a decoding of what
follows the invalid sequence (which is shorter than `u`: the fuel of `drain`). -/
def Cut (u t l : Bytes) : Option (Nat × Option Nat) → Prop
  | none => t = u ∧ l = []
  | some (v, none) => t = u.take v ∧ l = u.drop v
  | some (v, some e) => ∃ t', t = u.take v ++ (fffd ++ t') ∧
      Lossy ((u.drop v).drop e) t' l ∧ ((u.drop v).drop e).length < u.length

-- Stated of the whole buffer `u = pre ++ s`, with `pre` scanned already: `u` and the claim stay
-- put while the scan moves on, so the step over a complete scalar is the induction hypothesis.
theorem Lossy.validateAux {s t l : Bytes} (h : Lossy s t l) {pre u : Bytes} (hu : pre ++ s = u)
    {fuel : Nat} (hf : s.length ≤ fuel) :
    Cut u (pre ++ t) l (validateAux s pre.length (fuel + 1)) := by
  induction h generalizing pre fuel with
  | nil => exact ⟨hu, rfl⟩
  | @ok s t0 l0 n hs _ ih =>
    have hlt := Nat.lt_of_lt_of_le (step_drop_lt (.inl hs)) hf
    obtain _ | f := fuel
    · exact absurd hlt (Nat.not_lt_zero _)
    have := ih (pre := pre ++ s.take n) (by rw [List.append_assoc, List.take_append_drop, hu])
      (Nat.le_of_lt_succ hlt)
    rw [List.length_append, List.length_take_of_le (step_bound (.inl hs)).2] at this
    rw [validateAux_succ, hs, ← List.append_assoc]
    exact this
  | @invalid s t0 l0 e hs hsub _ =>
    subst hu
    rw [validateAux_succ, hs]
    refine ⟨t0, by rw [List.take_left], ?_⟩
    rw [List.drop_left, List.length_append]
    exact ⟨hsub, Nat.lt_add_left _ (step_drop_lt (.inr hs))⟩
  | @incomplete s hne hs =>
    subst hu
    rw [validateAux_succ, hs]
    dsimp only
    rw [if_neg hne]
    exact ⟨by rw [List.take_left, List.append_nil], List.drop_left.symm⟩

theorem Lossy.validate {s t l : Bytes} (h : Lossy s t l) : Cut s t l (validate s) :=
  h.validateAux (pre := []) rfl (Nat.le_refl _)

/-! ### `pushStr` field by field; pushes concatenate -/

def Pipe.withCarry (p : Pipe) (c : Bytes) : Pipe := { p with carry := c }

/-- the events that pushing `t` produces, cut at `[DONE]` -/
def Pipe.evs (p : Pipe) (t : Bytes) : List Parsed := uptoDone (p.dec.feed t).2

theorem pushStr_eq (δ : Bytes → Option Bytes) (p : Pipe) (t : Bytes) :
    p.pushStr δ t =
      { p with dec := (p.dec.feed t).1, seq := p.seq + (mapAll δ p.seq (p.evs t)).length,
               out := p.out ++ mapAll δ p.seq (p.evs t), done := (p.evs t).any isDone } := rfl

theorem withCarry_carry (p : Pipe) (c : Bytes) : (p.withCarry c).carry = c := rfl
theorem withCarry_dec (p : Pipe) (c : Bytes) : (p.withCarry c).dec = p.dec := rfl
theorem withCarry_seq (p : Pipe) (c : Bytes) : (p.withCarry c).seq = p.seq := rfl
theorem withCarry_out (p : Pipe) (c : Bytes) : (p.withCarry c).out = p.out := rfl
theorem withCarry_done (p : Pipe) (c : Bytes) : (p.withCarry c).done = p.done := rfl
theorem withCarry_withCarry (p : Pipe) (c c' : Bytes) :
    (p.withCarry c).withCarry c' = p.withCarry c' := rfl
theorem pushStr_withCarry (δ : Bytes → Option Bytes) (p : Pipe) (c t : Bytes) :
    (p.withCarry c).pushStr δ t = (p.pushStr δ t).withCarry c := rfl
theorem pushStr_carry (δ : Bytes → Option Bytes) (p : Pipe) (t : Bytes) :
    (p.pushStr δ t).carry = p.carry := rfl
theorem withCarry_self (p : Pipe) : p.withCarry p.carry = p := rfl

theorem clear_eq (p : Pipe) : p.clear = p.withCarry [] := rfl
theorem replace_eq (δ : Bytes → Option Bytes) (p : Pipe) (e : Nat) :
    p.replace δ e = (p.pushStr δ fffd).withCarry (p.carry.drop e) := pushStr_withCarry δ p _ fffd
theorem pushValid_eq (δ : Bytes → Option Bytes) (p : Pipe) (n : Nat) :
    p.pushValid δ n = (p.pushStr δ (p.carry.take n)).withCarry (p.carry.drop n) :=
  pushStr_withCarry δ p _ _

theorem evs_append (p : Pipe) (x y : Bytes) :
    p.evs (x ++ y) =
      if (p.evs x).any isDone then p.evs x else p.evs x ++ uptoDone ((p.dec.feed x).1.feed y).2 := by
  unfold Pipe.evs
  rw [any_uptoDone, Dec.feed_append, uptoDone_append]

theorem pushStr_pushStr (δ : Bytes → Option Bytes) (p : Pipe) (x y : Bytes)
    (h : (p.pushStr δ x).done = false) :
    (p.pushStr δ x).pushStr δ y = p.pushStr δ (x ++ y) := by
  have h' : (p.evs x).any isDone = false := h
  rw [pushStr_eq δ p (x ++ y), evs_append, h', if_neg Bool.false_ne_true, Dec.feed_append,
    mapAll_append, pushStr_eq δ (p.pushStr δ x) y, pushStr_eq δ p x]
  simp only [List.length_append, List.any_append, h', Bool.false_or, List.append_assoc,
    Nat.add_assoc]
  rfl

/-! ### what the read loop can still observe -/

/-- a pipe that has seen `[DONE]` is never fed again: its decoder and carry are dead state -/
def Pipe.obs (p : Pipe) : Pipe := if p.done then { p with dec := Dec.init, carry := [] } else p

theorem obs_of_not_done {p : Pipe} (h : p.done = false) : p.obs = p :=
  if_neg (ne_true_of_eq_false h)

theorem obs_eq_of_done {p q : Pipe} (ho : p.out = q.out) (hs : p.seq = q.seq)
    (hp : p.done = true) (hq : q.done = true) : p.obs = q.obs := by
  unfold Pipe.obs
  rw [if_pos hp, if_pos hq, ho, hs, hp, hq]

theorem obs_out (p : Pipe) : p.obs.out = p.out := (apply_ite Pipe.out ..).trans (ite_self _)

theorem obs_seq (p : Pipe) : p.obs.seq = p.seq := (apply_ite Pipe.seq ..).trans (ite_self _)

theorem obs_done (p : Pipe) : p.obs.done = p.done := (apply_ite Pipe.done ..).trans (ite_self _)

theorem obs_eq_fields {p q : Pipe} (h : p.obs = q.obs) :
    p.out = q.out ∧ p.seq = q.seq ∧ p.done = q.done :=
  ⟨by rw [← obs_out, h, obs_out], by rw [← obs_seq, h, obs_seq], by rw [← obs_done, h, obs_done]⟩

theorem obs_clear_of_done {p : Pipe} (h : p.done = true) : p.clear.obs = p.obs :=
  obs_eq_of_done rfl rfl h h

/-! ### pushing text in stages

Every state `drain` passes through is the start state with some text pushed and some carry left. -/

def pushed (δ : Bytes → Option Bytes) (p : Pipe) (t l : Bytes) : Pipe := (p.pushStr δ t).withCarry l

theorem replace_pushed (δ : Bytes → Option Bytes) (p : Pipe) (e : Nat) :
    p.replace δ e = pushed δ p fffd (p.carry.drop e) := replace_eq δ p e

theorem pushValid_pushed (δ : Bytes → Option Bytes) (p : Pipe) (n : Nat) :
    p.pushValid δ n = pushed δ p (p.carry.take n) (p.carry.drop n) := pushValid_eq δ p n

theorem pushed_nil (δ : Bytes → Option Bytes) {p : Pipe} (h : p.done = false) :
    pushed δ p [] p.carry = p := by
  cases p
  simp_all [pushed, Pipe.pushStr, Pipe.withCarry, Dec.push, Dec.feed, uptoDone, mapAll]

theorem pushed_pushed {δ : Bytes → Option Bytes} {p : Pipe} {x c y l : Bytes}
    (h : (pushed δ p x c).done = false) : pushed δ (pushed δ p x c) y l = pushed δ p (x ++ y) l := by
  rw [pushed, pushed, pushStr_withCarry, withCarry_withCarry, pushStr_pushStr δ p x y h]
  rfl

theorem obs_pushed_of_done {δ : Bytes → Option Bytes} {p : Pipe} {x c : Bytes} (y l : Bytes)
    (h : (pushed δ p x c).done = true) : (pushed δ p x c).obs = (pushed δ p (x ++ y) l).obs := by
  have h' : (p.evs x).any isDone = true := h
  unfold pushed
  rw [pushStr_eq δ p (x ++ y), evs_append, h', if_pos rfl]
  exact obs_eq_of_done rfl rfl h h'

/-- one stage of `drain`: having pushed `x`, stop if that showed `[DONE]`, else go on with `k` -/
theorem obs_stage (δ : Bytes → Option Bytes) {p : Pipe} {x c y l : Bytes} {k : Pipe}
    (h : (pushed δ p x c).done = false → k.obs = (pushed δ (pushed δ p x c) y l).obs) :
    (if (pushed δ p x c).done then (pushed δ p x c).clear else k).obs = (pushed δ p (x ++ y) l).obs := by
  cases hq : (pushed δ p x c).done with
  | true =>
    rw [if_pos rfl, obs_clear_of_done hq]
    exact obs_pushed_of_done y l hq
  | false => rw [if_neg Bool.false_ne_true, h hq, pushed_pushed hq]

theorem obs_ite_clear (q : Pipe) : (if q.done then q.clear else q).obs = q.obs := by
  cases hq : q.done with
  | true => rw [if_pos rfl, obs_clear_of_done hq]
  | false => rw [if_neg Bool.false_ne_true]

/-! ### `drain` computes `Lossy` -/

theorem drain_spec (δ : Bytes → Option Bytes) {fuel : Nat} {p : Pipe} {t l : Bytes}
    (hd : p.done = false) (hf : p.carry.length < fuel) (hL : Lossy p.carry t l) :
    (p.drain δ fuel).obs = (pushed δ p t l).obs := by
  induction fuel generalizing p t l with
  | zero => exact absurd hf (Nat.not_lt_zero _)
  | succ n ih =>
    have hv := hL.validate
    unfold Pipe.drain
    split <;> rename_i hval <;> rw [hval] at hv
    · obtain ⟨rfl, rfl⟩ := hv
      rfl
    · obtain ⟨rfl, rfl⟩ := hv
      rw [List.take_zero, List.drop_zero, pushed_nil δ hd]
    · obtain ⟨t', rfl, hL', hlt⟩ := hv
      -- `replace`/`pushValid` are rewritten to `pushed` first: unification would unfold `pushStr` over
      -- and over
      rw [replace_pushed, List.take_zero, List.nil_append]
      exact obs_stage δ fun hq =>
        ih hq (Nat.lt_of_lt_of_le hlt (Nat.le_of_lt_succ hf)) hL'
    · rename_i v err
      rw [pushValid_pushed]
      cases err with
      | none =>
        obtain ⟨rfl, rfl⟩ := hv
        exact obs_ite_clear _
      | some e =>
        obtain ⟨t', rfl, hL', hlt⟩ := hv
        refine obs_stage δ fun hq => ?_
        dsimp only
        rw [replace_pushed]
        exact obs_stage δ fun hq' =>
          ih hq' (Nat.lt_of_lt_of_le hlt (Nat.le_of_lt_succ hf)) hL'

/-! ### `pushBytes` and the read loop -/

theorem pushBytes_of_done (δ : Bytes → Option Bytes) {q : Pipe} {c : Bytes} (h : q.done = true) :
    q.pushBytes δ c = q := by
  unfold Pipe.pushBytes
  rw [if_pos h]

theorem foldl_pushBytes_of_done (δ : Bytes → Option Bytes) (cs : List Bytes) (q : Pipe)
    (h : q.done = true) : cs.foldl (Pipe.pushBytes δ) q = q :=
  foldl_inv (P := (· = q)) (fun _ _ e => by rw [e, pushBytes_of_done δ h]) cs q rfl

theorem init_pushBytes_nil (δ : Bytes → Option Bytes) (start : Nat) :
    (Pipe.init start).pushBytes δ [] = Pipe.init start := rfl

theorem pushBytes_spec (δ : Bytes → Option Bytes) {p : Pipe} {c t l : Bytes} (hd : p.done = false)
    (hL : Lossy (p.carry ++ c) t l) : (p.pushBytes δ c).obs = (pushed δ p t l).obs := by
  unfold Pipe.pushBytes
  rw [if_neg (ne_true_of_eq_false hd)]
  exact drain_spec δ (p := p.withCarry (p.carry ++ c)) hd (Nat.lt_succ_self _) hL

/-- the read loop's invariant: after the bytes `pre`, the pipe is (as far as can be observed) the start state with the lossy decoding of `p₀.carry ++ pre` pushed as one text -/
def After (δ : Bytes → Option Bytes) (p₀ : Pipe) (pre : Bytes) (p : Pipe) : Prop :=
  ∃ t l, Lossy (p₀.carry ++ pre) t l ∧ p.obs = (pushed δ p₀ t l).obs

theorem After.pushBytes {δ : Bytes → Option Bytes} {p₀ p : Pipe} {pre : Bytes}
    (h : After δ p₀ pre p) (c : Bytes) : After δ p₀ (pre ++ c) (p.pushBytes δ c) := by
  obtain ⟨t, l, hL, hp⟩ := h
  obtain ⟨t', l', hL'⟩ := lossy_exists (l ++ c)
  refine ⟨t ++ t', l', by rw [← List.append_assoc]; exact hL.append hL', ?_⟩
  have hdone := (obs_eq_fields hp).2.2
  cases hq : (pushed δ p₀ t l).done with
  | true =>
    rw [pushBytes_of_done δ (hdone.trans hq), hp]
    exact obs_pushed_of_done t' l' hq
  | false =>
    rw [obs_of_not_done (hdone.trans hq), obs_of_not_done hq] at hp
    rw [hp, pushBytes_spec δ hq hL', pushed_pushed hq]

theorem after_foldl (δ : Bytes → Option Bytes) (start : Nat) (cs : List Bytes) :
    After δ (Pipe.init start) cs.flatten (cs.foldl (Pipe.pushBytes δ) (Pipe.init start)) := by
  have h0 : After δ (Pipe.init start) [] (Pipe.init start) :=
    ⟨[], [], .nil, congrArg Pipe.obs (pushed_nil δ rfl).symm⟩
  exact foldl_flatten_inv (Inv := After δ (Pipe.init start)) (fun _ _ c h => h.pushBytes c) cs h0

theorem finish_obs (δ : Bytes → Option Bytes) {p q : Pipe} (h : p.obs = q.obs) :
    (p.finish δ).obs = (q.finish δ).obs := by
  have hd := (obs_eq_fields h).2.2
  cases hp : p.done with
  | true =>
    unfold Pipe.finish
    rw [if_pos hp, if_pos (hd ▸ hp)]
    exact h
  | false =>
    rw [obs_of_not_done hp, obs_of_not_done (hd ▸ hp)] at h
    rw [h]

theorem bytes_chunk_invariant (δ : Bytes → Option Bytes) (start : Nat) (cs : List Bytes) :
    (feed δ start cs).out = (feed δ start [cs.flatten]).out ∧
    (feed δ start cs).seq = (feed δ start [cs.flatten]).seq ∧
    (feed δ start cs).done = (feed δ start [cs.flatten]).done := by
  obtain ⟨t, l, hL, h⟩ := after_foldl δ start cs
  exact obs_eq_fields (finish_obs δ (h.trans (pushBytes_spec δ rfl hL).symm))

/-! ### numbering -/

/-- The read loop is observably one `pushStr`, which appends one `mapAll` block, and `finish` appends
another where the first left off: the frames of a run are one `mapAll` block from `start` (numbered as
`mapAll_seqs` says). -/
theorem feed_frames (δ : Bytes → Option Bytes) (start : Nat) (cs : List Bytes) :
    ∃ ps, (feed δ start cs).out = mapAll δ start ps ∧
      (feed δ start cs).seq = start + (mapAll δ start ps).length := by
  obtain ⟨t, l, _, h⟩ := after_foldl δ start cs
  unfold feed
  generalize List.foldl _ _ cs = p at h ⊢
  obtain ⟨ho, hs, _⟩ := obs_eq_fields h
  replace ho : p.out = mapAll δ start ((Pipe.init start).evs t) := ho.trans (List.nil_append _)
  replace hs : p.seq = start + (mapAll δ start ((Pipe.init start).evs t)).length := hs
  unfold Pipe.finish
  split
  · exact ⟨_, ho, hs⟩
  · refine ⟨(Pipe.init start).evs t ++ p.dec.finish.2, ?_, ?_⟩
    · show p.out ++ mapAll δ p.seq p.dec.finish.2 = _
      rw [ho, hs, ← mapAll_append]
    · show p.seq + (mapAll δ p.seq p.dec.finish.2).length = _
      rw [hs, mapAll_append, List.length_append, Nat.add_assoc]

end Rip.Sse
