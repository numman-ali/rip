import Rip.Model.Wire
/-!
C03: the write/read round trip of the wire model. An object is an association list read through `lookup`
(first match wins), so the proofs rest on `lookup_append`. In a well-formed schema the keys of envelope, tag
and fields are disjoint, so each reader finds what was written for it: reading returns the frame up to
`normVal` (`decode_encode`). The round-trip statements are this equation plus when `normVal` matters.
-/

namespace Rip.Wire

variable {V : Type}

/-- the bound is there for the induction; its second half, as `nodup_of_distinct`, is the fact that is used -/
theorem eraseDups_length {α : Type} [BEq α] [LawfulBEq α] (l : List α) :
    l.eraseDups.length ≤ l.length ∧ (l.eraseDups.length = l.length → l.Nodup) := by
  match l with
  | [] => exact ⟨Nat.le_refl _, fun _ => List.nodup_nil⟩
  | a :: as =>
    have hfl : (as.filter fun b => !b == a).length ≤ as.length := List.length_filter_le _ _
    obtain ⟨h1, h2⟩ := eraseDups_length (as.filter fun b => !b == a)
    rw [List.eraseDups_cons, List.length_cons, List.length_cons]
    refine ⟨Nat.succ_le_succ (Nat.le_trans h1 hfl), fun heq => ?_⟩
    -- nothing was dropped, so the filter kept all of `as`: `a` does not occur in it
    have hfe : as.filter (fun b => !b == a) = as :=
      List.filter_eq_self.mpr (List.length_filter_eq_length_iff.mp
        (Nat.le_antisymm hfl (Nat.succ.inj heq ▸ h1)))
    rw [hfe] at h2 heq
    refine List.nodup_cons.mpr ⟨fun hmem => ?_, h2 (Nat.succ.inj heq)⟩
    simpa using List.filter_eq_self.mp hfe a hmem
termination_by l.length
decreasing_by exact Nat.lt_succ_of_le (List.length_filter_le _ _)

theorem nodup_of_distinct {l : List Nat} (h : distinct l = true) : l.Nodup :=
  (eraseDups_length l).2 (beq_iff_eq.mp h)

/-! ### association lists -/

def keys (o : Obj V) : List Nat := o.map (·.1)

@[simp] theorem keys_nil : keys ([] : Obj V) = [] := rfl

@[simp] theorem keys_cons (kv : Nat × V) (o : Obj V) : keys (kv :: o) = kv.1 :: keys o := rfl

@[simp] theorem keys_append (o o' : Obj V) : keys (o ++ o') = keys o ++ keys o' :=
  List.map_append

@[simp] theorem lookup_nil (k : Nat) : lookup ([] : Obj V) k = none := rfl

theorem lookup_cons (kv : Nat × V) (o : Obj V) (k : Nat) :
    lookup (kv :: o) k = if kv.1 = k then some kv.2 else lookup o k := by
  rw [lookup, List.find?_cons]
  by_cases h : kv.1 = k
  · rw [if_pos h, beq_iff_eq.mpr h]
    rfl
  · rw [if_neg h, beq_false_of_ne h]
    rfl

theorem lookup_cons_of_eq {kv : Nat × V} {o : Obj V} {k : Nat} (h : kv.1 = k) :
    lookup (kv :: o) k = some kv.2 :=
  (lookup_cons kv o k).trans (if_pos h)

theorem lookup_eq_none_iff {o : Obj V} {k : Nat} : lookup o k = none ↔ k ∉ keys o := by
  simp only [lookup, keys, Option.map_eq_none_iff, List.find?_eq_none, List.mem_map, beq_iff_eq,
    not_exists, not_and]

theorem lookup_eq_some_of_mem_keys {o : Obj V} {k : Nat} (h : k ∈ keys o) : ∃ v, lookup o k = some v :=
  Option.ne_none_iff_exists'.mp fun hn => lookup_eq_none_iff.mp hn h

theorem lookup_append (o o' : Obj V) (k : Nat) :
    lookup (o ++ o') k = (lookup o k).or (lookup o' k) := by
  rw [lookup, List.find?_append, Option.map_or]
  rfl

theorem lookup_append_left {o o' : Obj V} {k : Nat} {v : V} (h : lookup o k = some v) :
    lookup (o ++ o') k = some v := by
  rw [lookup_append, h, Option.some_or]

theorem lookup_append_of_not_mem_left {o o' : Obj V} {k : Nat} (h : k ∉ keys o) :
    lookup (o ++ o') k = lookup o' k := by
  rw [lookup_append, lookup_eq_none_iff.mpr h, Option.none_or]

theorem lookup_append_of_not_mem_right {o o' : Obj V} {k : Nat} (h : k ∉ keys o') :
    lookup (o ++ o') k = lookup o k := by
  rw [lookup_append, lookup_eq_none_iff.mpr h, Option.or_none]

theorem lookupAny_eq_none {o : Obj V} {ks : List Nat} (h : ∀ k ∈ ks, k ∉ keys o) :
    lookupAny o ks = none := by
  induction ks with
  | nil => rfl
  | cons k ks ih =>
    obtain ⟨hk, hks⟩ := List.forall_mem_cons.mp h
    rw [lookupAny, lookup_eq_none_iff.mpr hk]
    exact ih hks

theorem lookupAny_congr {o o' : Obj V} {ks : List Nat} (h : ∀ k ∈ ks, lookup o k = lookup o' k) :
    lookupAny o ks = lookupAny o' ks := by
  induction ks with
  | nil => rfl
  | cons k ks ih =>
    obtain ⟨hk, hks⟩ := List.forall_mem_cons.mp h
    simp only [lookupAny]
    rw [hk, ih hks]

theorem readAll_congr {o o' : Obj V} {ks : List Nat} (h : ∀ k ∈ ks, lookup o k = lookup o' k) :
    readAll o ks = readAll o' ks := by
  induction ks with
  | nil => rfl
  | cons k ks ih =>
    obtain ⟨hk, hks⟩ := List.forall_mem_cons.mp h
    rw [readAll, readAll, hk, ih hks]

theorem readAll_append_left {o o' : Obj V} {ks : List Nat} (h : ∀ k ∈ ks, k ∈ keys o) :
    readAll (o ++ o') ks = some (ks.filterMap (fun k => lookup o k)) := by
  induction ks with
  | nil => rfl
  | cons k ks ih =>
    obtain ⟨hk, hks⟩ := List.forall_mem_cons.mp h
    obtain ⟨v, hv⟩ := lookup_eq_some_of_mem_keys hk
    rw [readAll, lookup_append_left hv, ih hks, List.filterMap_cons_some hv]

theorem readAll_append {o extra : Obj V} {ks : List Nat} {ev : List V}
    (h : readAll o ks = some ev) : readAll (o ++ extra) ks = some ev := by
  induction ks generalizing ev with
  | nil => exact h
  | cons k ks ih =>
    rw [readAll] at h ⊢
    split at h
    next v vs hv hvs => rwa [lookup_append_left hv, ih hvs]
    next => cases h

variable [DecidableEq V]

/-! ### reading ignores unknown keys -/

theorem decodeField_congr (env : Env V) {o o' : Obj V} {fd : Field}
    (h : ∀ k ∈ fieldKeys fd, lookup o k = lookup o' k) :
    decodeField env o fd = decodeField env o' fd := by
  unfold decodeField
  rw [lookupAny_congr (ks := fd.name :: fd.aliases) h]

theorem decodeFields_congr (env : Env V) {o o' : Obj V} {fds : List Field}
    (h : ∀ k ∈ (fds.map fieldKeys).flatten, lookup o k = lookup o' k) :
    decodeFields env o fds = decodeFields env o' fds := by
  induction fds with
  | nil => rfl
  | cons fd fds ih =>
    rw [List.map_cons, List.flatten_cons, List.forall_mem_append] at h
    rw [decodeFields, decodeFields, decodeField_congr env h.1, ih h.2]

theorem decode_eq_some_iff (env : Env V) (S : Schema) (derive : Nat → List V → List V)
    (o : Obj V) (f : Frame V) :
    decode env S derive o = some f ↔
    ∃ ev t v, readAll o S.readEnvelope = some ev ∧ lookup o S.tagField = some t ∧
      findVariant env S t = some f.variant ∧ S.variants[f.variant]? = some v ∧
      decodeFields env o v.fields = some f.fields ∧ f.envelope = derive v.stream ev := by
  constructor
  · fun_cases decode env S derive o
    case case4 ev t hlt hra i hfv v hv fs hfs =>
      rintro ⟨⟩
      exact ⟨ev, t, v, hra, hlt, hfv, hv, hfs, rfl⟩
    all_goals nofun
  · rintro ⟨ev, t, v, hra, hlt, hfv, hv, hfs, hev⟩
    simp only [decode, hra, hlt, hfv, hv, hfs, ← hev]

/-- `decode` sees the object only through `lookup` at the keys it reads -/
theorem decode_congr (env : Env V) (S : Schema) (derive : Nat → List V → List V) {o o' : Obj V}
    {f : Frame V} (hd : decode env S derive o = some f)
    (henv : ∀ k ∈ S.readEnvelope, lookup o' k = lookup o k)
    (htag : lookup o' S.tagField = lookup o S.tagField)
    (hfld : ∀ v, S.variants[f.variant]? = some v →
      ∀ k ∈ (v.fields.map fieldKeys).flatten, lookup o' k = lookup o k) :
    decode env S derive o' = some f := by
  obtain ⟨ev, t, v, hra, hlt, hfv, hv, hfs, hev⟩ := (decode_eq_some_iff env S derive o f).mp hd
  exact (decode_eq_some_iff env S derive o' f).mpr ⟨ev, t, v, readAll_congr henv ▸ hra,
    htag ▸ hlt, hfv, hv, decodeFields_congr env (hfld v hv) ▸ hfs, hev⟩

theorem decode_ignores_unknown (env : Env V) (S : Schema) (derive : Nat → List V → List V)
    (o extra : Obj V) (f : Frame V)
    (hd : decode env S derive o = some f)
    (hx : ∀ kv ∈ extra, kv.1 ∉ S.readEnvelope ∧ kv.1 ≠ S.tagField ∧
          ∀ v, S.variants[f.variant]? = some v → kv.1 ∉ (v.fields.map fieldKeys).flatten) :
    decode env S derive (o ++ extra) = some f := by
  have hlook : ∀ k, (∀ kv ∈ extra, kv.1 ≠ k) → lookup (o ++ extra) k = lookup o k := by
    intro k hk
    refine lookup_append_of_not_mem_right fun hmem => ?_
    obtain ⟨kv, hkv, rfl⟩ := List.mem_map.mp hmem
    exact hk kv hkv rfl
  exact decode_congr env S derive hd
    (fun k hk => hlook k fun kv hkv e => (hx kv hkv).1 (e ▸ hk))
    (hlook _ fun kv hkv => (hx kv hkv).2.1)
    (fun v hv k hk => hlook k fun kv hkv e => (hx kv hkv).2.2 v hv (e ▸ hk))

/-! ### what `encodeFields` writes -/

theorem encodeField_key {env : Env V} {fd : Field} {fv : FieldVal V} {kv : Nat × V}
    (h : encodeField env fd fv = some kv) : kv.1 = fd.name := by
  revert h
  fun_cases encodeField env fd fv
  all_goals rintro ⟨⟩
  all_goals rfl

theorem keys_encodeField (env : Env V) (fd : Field) (fv : FieldVal V) :
    ∀ k ∈ keys (encodeField env fd fv).toList, k = fd.name := by
  intro k hk
  obtain ⟨kv, hkv, rfl⟩ := List.mem_map.mp hk
  exact encodeField_key (Option.mem_toList.mp hkv)

theorem encodeFields_cons (env : Env V) (fd : Field) (fds : List Field) (fv : FieldVal V)
    (fvs : List (FieldVal V)) :
    encodeFields env (fd :: fds) (fv :: fvs) =
      (encodeField env fd fv).toList ++ encodeFields env fds fvs := by
  rw [encodeFields]
  cases encodeField env fd fv <;> rfl

theorem keys_encodeFields (env : Env V) (fds : List Field) (fvs : List (FieldVal V)) :
    ∀ k ∈ keys (encodeFields env fds fvs), k ∈ (fds.map fieldKeys).flatten := by
  intro k hk
  fun_induction encodeFields env fds fvs with
  | case1 fd fds fv fvs kv hkv ih =>
    rw [List.map_cons, List.flatten_cons, List.mem_append]
    rcases List.mem_cons.mp hk with rfl | hk
    · exact .inl (List.mem_cons.mpr (.inl (encodeField_key hkv)))
    · exact .inr (ih hk)
  | case2 fd fds fv fvs hkv ih => exact List.mem_append_right _ (ih hk)
  | case3 => cases hk

/-! ### normalisation: `some null ↦ none` -/

/-- the one ambiguity of the wire form: an Option holding `some null` is read back as `none` -/
def normVal (env : Env V) : FieldVal V → FieldVal V
  | .opt (some v) => if v == env.null then .opt none else .opt (some v)
  | fv => fv

/-- a frame after one trip over the wire -/
def normalise (env : Env V) (f : Frame V) : Frame V :=
  { f with fields := f.fields.map (normVal env) }

/-! Apart from `decodeField_of_lookupAny`, which unfolds it against the reader, all that is proved
about `normVal` follows from the next two equations by a case split on `fv = .opt (some env.null)`. -/

theorem normVal_null (env : Env V) : normVal env (.opt (some env.null)) = .opt none :=
  if_pos BEq.rfl

theorem normVal_eq_self {env : Env V} {fv : FieldVal V} (h : fv ≠ .opt (some env.null)) :
    normVal env fv = fv := by
  unfold normVal
  split
  · next v => exact if_neg fun hv => h (by rw [beq_iff_eq.mp hv])
  · rfl

theorem normVal_ne_some_null (env : Env V) (fv : FieldVal V) :
    normVal env fv ≠ .opt (some env.null) := by
  by_cases h : fv = .opt (some env.null)
  · rw [h, normVal_null]
    nofun
  · rwa [normVal_eq_self h]

theorem normVal_idem (env : Env V) (fv : FieldVal V) :
    normVal env (normVal env fv) = normVal env fv :=
  normVal_eq_self (normVal_ne_some_null env fv)

theorem normalise_eq_self {env : Env V} {f : Frame V}
    (hnn : ∀ fv ∈ f.fields, fv ≠ .opt (some env.null)) : normalise env f = f := by
  rw [normalise, List.map_congr_left fun fv hfv => normVal_eq_self (hnn fv hfv), List.map_id']

theorem mem_normalise_ne (env : Env V) (f : Frame V) :
    ∀ fv ∈ (normalise env f).fields, fv ≠ .opt (some env.null) := by
  intro fv hfv
  obtain ⟨fv0, _, rfl⟩ := List.mem_map.mp hfv
  exact normVal_ne_some_null env fv0

/-! ### reading one field back -/

/-- the per-field part of `wfVariant` -/
def fieldOk (fd : Field) : Bool :=
  (!fd.skipNone || (fd.option && fd.default)) &&
  (!fd.skipEmpty || (fd.vec && fd.default && !fd.option)) &&
  !(fd.option && fd.vec)

/-- the per-field part of `typed` -/
def fits (fd : Field) : FieldVal V → Bool
  | .opt _ => fd.option
  | .req _ => !fd.option

theorem decodeField_of_lookupAny (env : Env V) {o : Obj V} {fd : Field} {fv : FieldVal V}
    (hok : fieldOk fd = true) (hfit : fits fd fv = true)
    (hl : lookupAny o (fd.name :: fd.aliases) = (encodeField env fd fv).map (·.2)) :
    decodeField env o fd = some (normVal env fv) := by
  unfold decodeField
  rw [hl]
  fun_cases encodeField env fd fv
  case case1 | case2 =>
    -- `none`, skipped or written as null: both read as `none`
    have hopt : fd.option = true := hfit
    simp [hopt, normVal]
  case case3 v =>
    -- `some v` is written as `v`, which reads as `none` exactly when it is null: `normVal`
    have hopt : fd.option = true := hfit
    simp only [Option.map_some, hopt, if_true, normVal, apply_ite FieldVal.opt]
  case case4 v hc =>
    -- an empty `Vec` was skipped: absent on read, restored by `default` (`fieldOk` pairs the two)
    have hopt : fd.option = false := (Bool.not_eq_true' _).mp hfit
    simp only [Bool.and_eq_true, beq_iff_eq] at hc
    obtain ⟨hse, rfl⟩ := hc
    simp [fieldOk, hse, hopt] at hok
    simp [hopt, hok, normVal]
  case case5 v hc =>
    have hopt : fd.option = false := (Bool.not_eq_true' _).mp hfit
    simp [hopt, normVal]

theorem decodeField_encoded (env : Env V) {pre rest : Obj V} {fd : Field} {fv : FieldVal V}
    (hok : fieldOk fd = true) (hfit : fits fd fv = true)
    (hpre : ∀ k ∈ fieldKeys fd, k ∉ keys pre) (hrest : ∀ k ∈ fieldKeys fd, k ∉ keys rest) :
    decodeField env (pre ++ (encodeField env fd fv).toList ++ rest) fd = some (normVal env fv) := by
  apply decodeField_of_lookupAny env hok hfit
  cases h : encodeField env fd fv with
  | none =>
    refine lookupAny_eq_none fun k hk => ?_
    rw [Option.toList_none, List.append_nil, keys_append, List.mem_append]
    exact fun hm => hm.elim (hpre k hk) (hrest k hk)
  | some kv =>
    rw [lookupAny, List.append_assoc, lookup_append_of_not_mem_left (hpre _ List.mem_cons_self),
      Option.toList_some, List.cons_append, lookup_cons_of_eq (encodeField_key h)]
    rfl

theorem decodeFields_encoded (env : Env V) (pre : Obj V) {fds : List Field} {fvs : List (FieldVal V)}
    (hpre : ∀ k ∈ (fds.map fieldKeys).flatten, k ∉ keys pre)
    (hnd : ((fds.map fieldKeys).flatten).Nodup)
    (hok : ∀ fd ∈ fds, fieldOk fd = true)
    (hlen : fvs.length = fds.length)
    (hfit : ∀ p ∈ fds.zip fvs, fits p.1 p.2 = true) :
    decodeFields env (pre ++ encodeFields env fds fvs) fds = some (fvs.map (normVal env)) := by
  induction fds generalizing fvs pre with
  | nil =>
    cases fvs with
    | nil => rfl
    | cons _ _ => cases hlen
  | cons fd fds ih =>
    cases fvs with
    | nil => cases hlen
    | cons fv fvs =>
      rw [List.map_cons, List.flatten_cons] at hpre hnd
      obtain ⟨hpre_fd, hpre_fds⟩ := List.forall_mem_append.mp hpre
      obtain ⟨_, hnd, hdisj⟩ := List.nodup_append.mp hnd
      obtain ⟨hok_fd, hok_fds⟩ := List.forall_mem_cons.mp hok
      obtain ⟨hfit_fd, hfit_fds⟩ := List.forall_mem_cons.mp hfit
      -- this field's keys are written by no later field …
      have hhead := decodeField_encoded env hok_fd hfit_fd hpre_fd
        (fun k hk hm => hdisj k hk k (keys_encodeFields env fds fvs k hm) rfl)
      -- … and what it wrote joins the prefix, which still avoids the later fields' keys
      have hpre' : ∀ k ∈ (fds.map fieldKeys).flatten,
          k ∉ keys (pre ++ (encodeField env fd fv).toList) := by
        intro k hk hm
        rw [keys_append, List.mem_append] at hm
        rcases hm with hm | hm
        · exact hpre_fds k hk hm
        · exact hdisj _ List.mem_cons_self k hk (keys_encodeField env fd fv k hm).symm
      have htail := ih _ hpre' hnd hok_fds (Nat.succ.inj hlen) hfit_fds
      rw [encodeFields_cons, ← List.append_assoc, decodeFields, hhead, htail]
      rfl

/-! ### the variant tag; what `wellFormed` gives -/

/-- the environment is sane: tags map to pairwise different values (tag strings are distinct) -/
def EnvOk (env : Env V) (S : Schema) : Prop :=
  ∀ a b, a ∈ (S.variants.map (fun v => v.tag :: v.aliases)).flatten →
         b ∈ (S.variants.map (fun v => v.tag :: v.aliases)).flatten → env.tagV a = env.tagV b → a = b

/-- the frame's envelope is what the writer derives from the envelope values that are read (stream_kind /
stream_id are functions of the kind and of session_id) -/
def EnvelopeConsistent (S : Schema) (derive : Nat → List V → List V) (f : Frame V) : Prop :=
  ∀ v, S.variants[f.variant]? = some v →
    derive v.stream (S.readEnvelope.filterMap (fun k => lookup (S.envelope.zip f.envelope) k)) = f.envelope

theorem findVariant_tag (env : Env V) (S : Schema) (henv : EnvOk env S)
    (hnd : ((S.variants.map (fun v => v.tag :: v.aliases)).flatten).Nodup)
    {i : Nat} {v : Variant} (hv : S.variants[i]? = some v) :
    findVariant env S (env.tagV v.tag) = some i := by
  obtain ⟨hi, rfl⟩ := List.getElem?_eq_some_iff.mp hv
  have hflat : ∀ w ∈ S.variants, ∀ a ∈ w.tag :: w.aliases,
      a ∈ (S.variants.map (fun v => v.tag :: v.aliases)).flatten :=
    fun w hw a ha => List.mem_flatten_of_mem (List.mem_map_of_mem hw) ha
  -- the tag lists of two different variants share no tag
  have hdisj := List.pairwise_iff_getElem.mp
    (List.pairwise_map.mp (List.pairwise_flatten.mp hnd).2)
  refine List.findIdx?_eq_some_iff_getElem.mpr ⟨hi, ?_, fun j hji hp => ?_⟩
  · exact List.any_eq_true.mpr ⟨_, List.mem_cons_self, BEq.rfl⟩
  · obtain ⟨a, ha, hta⟩ := List.any_eq_true.mp hp
    have hjl : j < S.variants.length := Nat.lt_trans hji hi
    have hav : a = S.variants[i].tag :=
      henv a _ (hflat _ (List.getElem_mem hjl) a ha) (hflat _ (List.getElem_mem hi) _ List.mem_cons_self)
        (beq_iff_eq.mp hta)
    exact hdisj j i hjl hi hji a ha _ List.mem_cons_self hav

theorem wf_schema {S : Schema} (hwf : wellFormed S = true) :
    ((S.variants.map (fun v => v.tag :: v.aliases)).flatten).Nodup ∧ S.tagField ∉ S.envelope ∧
    ∀ k ∈ S.readEnvelope, k ∈ S.envelope := by
  simp only [wellFormed, Bool.and_eq_true] at hwf
  obtain ⟨⟨⟨⟨h1, _⟩, h3⟩, h4⟩, _⟩ := hwf
  refine ⟨nodup_of_distinct h1, by simpa using h3, fun k hk => ?_⟩
  simpa using List.all_eq_true.mp h4 k hk

theorem wf_variant {S : Schema} (hwf : wellFormed S = true) {i : Nat} {v : Variant}
    (hv : S.variants[i]? = some v) :
    ((v.fields.map fieldKeys).flatten).Nodup ∧
    (∀ k ∈ (v.fields.map fieldKeys).flatten, k ∉ S.envelope ∧ k ≠ S.tagField) ∧
    ∀ fd ∈ v.fields, fieldOk fd = true := by
  simp only [wellFormed, Bool.and_eq_true] at hwf
  have hwv := List.all_eq_true.mp hwf.2 v (List.mem_of_getElem? hv)
  simp only [wfVariant, Bool.and_eq_true] at hwv
  obtain ⟨⟨⟨k1, k2⟩, k3⟩, _⟩ := hwv
  refine ⟨nodup_of_distinct k1, fun k hk => ?_, List.all_eq_true.mp k3⟩
  simpa using List.all_eq_true.mp k2 k hk

/-! ### the round trip -/

omit [DecidableEq V] in
theorem typed_iff (S : Schema) (f : Frame V) :
    typed S f = true ↔ ∃ v, S.variants[f.variant]? = some v ∧
      f.envelope.length = S.envelope.length ∧ f.fields.length = v.fields.length ∧
      ∀ p ∈ v.fields.zip f.fields, fits p.1 p.2 = true := by
  unfold typed
  cases S.variants[f.variant]? with
  | none => exact iff_of_false Bool.false_ne_true nofun
  | some v =>
    simp only [Bool.and_eq_true, beq_iff_eq, List.all_eq_true, Option.some.injEq, exists_eq_left',
      and_assoc]
    -- the test `typed` makes on a pair is `fits`, by unfolding
    exact Iff.rfl

theorem encode_eq (env : Env V) {S : Schema} {f : Frame V} {v : Variant}
    (hv : S.variants[f.variant]? = some v) :
    encode env S f = some (S.envelope.zip f.envelope ++ [(S.tagField, env.tagV v.tag)] ++
      encodeFields env v.fields f.fields) := by
  simp only [encode, hv]

theorem decode_encode (env : Env V) (S : Schema) (derive : Nat → List V → List V) (f : Frame V)
    (o : Obj V)
    (hwf : wellFormed S = true) (henv : EnvOk env S) (ht : typed S f = true)
    (hc : EnvelopeConsistent S derive f) (he : encode env S f = some o) :
    decode env S derive o = some (normalise env f) := by
  obtain ⟨v, hv, hel, hfl, hfit⟩ := (typed_iff S f).mp ht
  obtain ⟨hnd, hdisj, hok⟩ := wf_variant hwf hv
  obtain ⟨htags, htag, hread⟩ := wf_schema hwf
  cases (encode_eq env hv).symm.trans he
  have hkz : keys (S.envelope.zip f.envelope) = S.envelope :=
    List.map_fst_zip (Nat.le_of_eq hel.symm)
  have hpre : ∀ k ∈ (v.fields.map fieldKeys).flatten,
      k ∉ keys (S.envelope.zip f.envelope ++ [(S.tagField, env.tagV v.tag)]) := by
    intro k hk
    simp only [keys_append, hkz, keys_cons, keys_nil, List.mem_append, List.mem_singleton, not_or]
    exact hdisj k hk
  refine (decode_eq_some_iff env S derive _ _).mpr ⟨_, _, v, ?_, ?_,
    findVariant_tag env S henv htags hv, hv,
    decodeFields_encoded env _ hpre hnd hok hfl hfit, (hc v hv).symm⟩
  · rw [List.append_assoc]
    exact readAll_append_left fun k hk => hkz.symm ▸ hread k hk
  · apply lookup_append_left
    rw [lookup_append_of_not_mem_left (hkz.symm ▸ htag), lookup_cons_of_eq rfl]

/-- `some null ↦ none` (a null value and an absent key both read as `none`) is the only loss: a skipped empty `Vec` is
restored by the default, and a field with `default` but without a skip is always written -/
theorem roundtrip_typed_iff (env : Env V) (S : Schema) (derive : Nat → List V → List V)
    (f : Frame V) (o : Obj V)
    (hwf : wellFormed S = true) (henv : EnvOk env S) (ht : typed S f = true)
    (hc : EnvelopeConsistent S derive f) (he : encode env S f = some o) :
    decode env S derive o = some f ↔ ∀ fv ∈ f.fields, fv ≠ .opt (some env.null) := by
  rw [decode_encode env S derive f o hwf henv ht hc he, Option.some.injEq]
  exact ⟨fun h => h ▸ mem_normalise_ne env f, normalise_eq_self⟩

/-! ### writing the frame that was read -/

theorem encodeField_normVal {env : Env V} {fd : Field} {fv : FieldVal V}
    (h : fd.skipNone = true → fv ≠ .opt (some env.null)) :
    encodeField env fd (normVal env fv) = encodeField env fd fv := by
  by_cases hfv : fv = .opt (some env.null)
  · have hs : fd.skipNone = false := Bool.eq_false_iff.mpr fun hs => h hs hfv
    rw [hfv, normVal_null, encodeField, hs]
    rfl
  · rw [normVal_eq_self hfv]

theorem encodeFields_normVal_iff {env : Env V} {fds : List Field} {fvs : List (FieldVal V)}
    (hnd : ((fds.map fieldKeys).flatten).Nodup) :
    encodeFields env fds (fvs.map (normVal env)) = encodeFields env fds fvs ↔
    ∀ p ∈ fds.zip fvs, p.1.skipNone = true → p.2 ≠ .opt (some env.null) := by
  induction fds generalizing fvs with
  | nil => exact iff_of_true rfl (List.forall_mem_nil _)
  | cons fd fds ih =>
    cases fvs with
    | nil => exact iff_of_true rfl (List.forall_mem_nil _)
    | cons fv fvs =>
      rw [List.map_cons, List.flatten_cons] at hnd
      obtain ⟨_, hnd', hdisj⟩ := List.nodup_append.mp hnd
      rw [List.map_cons, encodeFields_cons, encodeFields_cons, List.zip_cons_cons,
        List.forall_mem_cons]
      by_cases hhead : fd.skipNone = true → fv ≠ .opt (some env.null)
      · rw [encodeField_normVal hhead, List.append_cancel_left_eq, ih hnd']
        exact (and_iff_right hhead).symm
      · -- a skipped `some null`: its key is written on the right only, and by no later field
        refine iff_of_false (fun h => ?_) (fun h => hhead h.1)
        obtain ⟨hs, hfv⟩ := Classical.not_imp.mp hhead
        cases Classical.not_not.mp hfv
        rw [normVal_null, encodeField, hs, if_pos rfl] at h
        have h' : encodeFields env fds (fvs.map (normVal env)) =
            (fd.name, env.null) :: encodeFields env fds fvs := h
        have hmem : fd.name ∈ keys (encodeFields env fds (fvs.map (normVal env))) :=
          h' ▸ List.mem_cons_self
        exact hdisj _ List.mem_cons_self _ (keys_encodeFields env fds _ _ hmem) rfl

theorem encode_normalise_iff (env : Env V) {S : Schema} {f : Frame V} {v : Variant}
    (hv : S.variants[f.variant]? = some v) (hnd : ((v.fields.map fieldKeys).flatten).Nodup) :
    encode env S (normalise env f) = encode env S f ↔
    ∀ p ∈ v.fields.zip f.fields, p.1.skipNone = true → p.2 ≠ .opt (some env.null) := by
  rw [encode_eq env hv, encode_eq env (f := normalise env f) hv, Option.some.injEq]
  exact (List.append_right_inj _).trans (encodeFields_normVal_iff hnd)

/-- the hypothesis `hsn` of `roundtrip` is necessary and sufficient -/
theorem roundtrip_iff (env : Env V) (S : Schema) (derive : Nat → List V → List V) (f : Frame V)
    (o : Obj V)
    (hwf : wellFormed S = true) (henv : EnvOk env S) (ht : typed S f = true)
    (hc : EnvelopeConsistent S derive f) (he : encode env S f = some o) :
    (∃ f', decode env S derive o = some f' ∧ f'.variant = f.variant ∧ encode env S f' = some o) ↔
    (∀ v, S.variants[f.variant]? = some v →
      ∀ p ∈ v.fields.zip f.fields, p.1.skipNone = true → p.2 ≠ .opt (some env.null)) := by
  have hd := decode_encode env S derive f o hwf henv ht hc he
  obtain ⟨v, hv, _⟩ := (typed_iff S f).mp ht
  have hre := encode_normalise_iff env hv (wf_variant hwf hv).1
  rw [he] at hre
  constructor
  · rintro ⟨f', hf', _, he'⟩ w hw
    cases hd.symm.trans hf'
    cases hv.symm.trans hw
    exact hre.mp he'
  · intro hsn
    exact ⟨normalise env f, hd, rfl, hre.mpr (hsn v hv)⟩

/-- `hsn`: no `skip_serializing_if = "Option::is_none"` field holds `Some(null)`. Needed:
`roundtrip_without_hsn_false`; and nothing weaker will do: `roundtrip_iff` -/
theorem roundtrip (env : Env V) (S : Schema) (derive : Nat → List V → List V) (f : Frame V)
    (o : Obj V)
    (hwf : wellFormed S = true) (henv : EnvOk env S) (ht : typed S f = true)
    (hc : EnvelopeConsistent S derive f) (he : encode env S f = some o)
    (hsn : ∀ v, S.variants[f.variant]? = some v →
      ∀ p ∈ v.fields.zip f.fields, p.1.skipNone = true → p.2 ≠ .opt (some env.null)) :
    ∃ f', decode env S derive o = some f' ∧ f'.variant = f.variant ∧ encode env S f' = some o :=
  (roundtrip_iff env S derive f o hwf henv ht hc he).mpr hsn

/-! ### the unconditional form -/

theorem fits_normVal (env : Env V) (fd : Field) (fv : FieldVal V) :
    fits fd (normVal env fv) = fits fd fv := by
  by_cases h : fv = .opt (some env.null)
  · rw [h, normVal_null]
    rfl
  · rw [normVal_eq_self h]

theorem typed_normalise (env : Env V) {S : Schema} {f : Frame V} (ht : typed S f = true) :
    typed S (normalise env f) = true := by
  rw [typed_iff] at ht ⊢
  obtain ⟨v, hv, h1, h2, h3⟩ := ht
  refine ⟨v, hv, h1, (List.length_map _).trans h2, ?_⟩
  rw [normalise, List.zip_map_right, List.forall_mem_map]
  exact fun q hq => (fits_normVal env _ _).trans (h3 q hq)

/-- after one trip over the wire a frame is stable -/
theorem roundtrip_norm (env : Env V) (S : Schema) (derive : Nat → List V → List V) (f : Frame V)
    (o : Obj V)
    (hwf : wellFormed S = true) (henv : EnvOk env S) (ht : typed S f = true)
    (hc : EnvelopeConsistent S derive f) (he : encode env S f = some o) :
    decode env S derive o = some (normalise env f) ∧
    (normalise env f).variant = f.variant ∧ (normalise env f).envelope = f.envelope ∧
    ∃ o', encode env S (normalise env f) = some o' ∧
      decode env S derive o' = some (normalise env f) := by
  refine ⟨decode_encode env S derive f o hwf henv ht hc he, rfl, rfl, ?_⟩
  obtain ⟨v, hv, _⟩ := (typed_iff S f).mp ht
  have he' := encode_eq env (f := normalise env f) hv
  refine ⟨_, he', ?_⟩
  exact (roundtrip_typed_iff env S derive (normalise env f) _ hwf henv (typed_normalise env ht) hc
    he').mpr (mem_normalise_ne env f)

/-! ### the counterexample: `roundtrip` without `hsn` is false

`reason: Option<Value>` with `#[serde(default, skip_serializing_if = "Option::is_none")]` holding
`Some(Value::Null)`: written as `"reason": null`, read back as `None`, written again as nothing. -/

namespace Cex

def fd : Field :=
  { name := 2, aliases := [], option := true, vec := false, skipNone := true, skipEmpty := false,
    default := true }

def S : Schema :=
  { envelope := [], readEnvelope := [], tagField := 0,
    variants := [{ tag := 1, aliases := [], fields := [fd], stream := 0 }] }

def env : Env Nat := { null := 0, emptyArr := 1, dflt := 2, tagV := id }

def derive : Nat → List Nat → List Nat := fun _ ev => ev

/-- `reason = Some(null)` -/
def f : Frame Nat := { envelope := [], variant := 0, fields := [.opt (some 0)] }

/-- `{"type": <tag 1>, "reason": null}` -/
def o : Obj Nat := [(0, 1), (2, 0)]

theorem wf : wellFormed S = true := by decide
theorem ty : typed S f = true := by decide
theorem enc : encode env S f = some o := by decide
theorem envOk : EnvOk env S := fun _ _ _ _ h => h
theorem cons : EnvelopeConsistent S derive f := fun _ _ => rfl

/-- what is read: `reason = None` -/
theorem dec : decode env S derive o = some { envelope := [], variant := 0, fields := [.opt none] } := by
  decide

/-- … which is written WITHOUT the `reason` key: a different object -/
theorem reenc : encode env S { envelope := [], variant := 0, fields := [.opt none] } = some [(0, 1)] := by
  decide

end Cex

theorem roundtrip_without_hsn_false :
    ¬ (∀ (env : Env Nat) (S : Schema) (derive : Nat → List Nat → List Nat) (f : Frame Nat)
        (o : Obj Nat),
        wellFormed S = true → EnvOk env S → typed S f = true → EnvelopeConsistent S derive f →
        encode env S f = some o →
        ∃ f', decode env S derive o = some f' ∧ f'.variant = f.variant ∧ encode env S f' = some o) := by
  intro h
  obtain ⟨f', hd, _, he⟩ := h Cex.env Cex.S Cex.derive Cex.f Cex.o Cex.wf Cex.envOk Cex.ty Cex.cons Cex.enc
  cases Cex.dec.symm.trans hd
  exact absurd (Cex.reenc.symm.trans he) (by decide)

end Rip.Wire
