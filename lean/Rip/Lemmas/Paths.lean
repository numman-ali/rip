import Rip.Model.Paths
import Rip.Lemmas.Basic
/-!
C13: what each lexical path check has established when it accepts, and that the operating system's
walk of a relative string without a `..` component stays below its start.
-/
namespace Rip.Paths
open Rip.Proto Rip.Patch Rip.Basic

/-- the validators test `any (· == x) = false`, the statements say `all (· != x)` -/
theorem all_bne_of_any_beq_false {α} [BEq α] {l : List α} {x : α} (h : l.any (· == x) = false) :
    l.all (· != x) = true :=
  List.not_any_eq_all_not.symm.trans (congrArg (!·) h)

theorem parentDir_mem_components (s : Bytes) (h : [46, 46] ∈ splitSlash s) :
    Component.parentDir ∈ components s :=
  List.mem_append_right _ (List.mem_filterMap.mpr ⟨[46, 46], h, by decide⟩)

theorem no_dotdot_segment (s : Bytes) (h : (components s).any (· == .parentDir) = false) :
    ∀ seg ∈ splitSlash s, seg ≠ [46, 46] := by
  intro seg hseg heq
  have h2 : (components s).any (· == .parentDir) = true :=
    List.any_eq_true.mpr ⟨_, parentDir_mem_components s (heq ▸ hseg), by simp⟩
  rw [h] at h2
  cases h2

theorem osStep_prefix (root cur : Path) (seg : Bytes) (hp : root <+: cur) (hne : seg ≠ [46, 46]) :
    root <+: osStep cur seg := by
  unfold osStep
  rw [if_neg hne]
  split
  · exact hp
  · exact hp.trans (List.prefix_append _ _)

theorem osWalk_confined (root : Path) (raw : Bytes) (ha : isAbsolute raw = false)
    (hp : (components raw).any (· == .parentDir) = false) : root <+: osWalk root raw := by
  simp only [osWalk, ha, Bool.false_eq_true, ↓reduceIte]
  exact List.foldlRecOn _ osStep (List.prefix_refl root) fun cur hcur seg hseg =>
    osStep_prefix root cur seg hcur (no_dotdot_segment raw hp seg hseg)

theorem resolve_ok {raw rel : Bytes} : resolve raw = .ok rel →
    isAbsolute raw = false ∧ (components raw).any (· == .parentDir) = false ∧ rel = raw := by
  fun_cases resolve raw
  next => exact error_ne_ok
  next => exact error_ne_ok
  next ha hp =>
    rintro ⟨⟩
    exact ⟨Bool.eq_false_iff.2 ha, Bool.eq_false_iff.2 hp, rfl⟩

theorem parseRelPath_ok {raw : Bytes} {p : RPath} : parseRelPath raw = .ok p →
    isAbsolute (Rip.Text.trim raw) = false ∧
    (components (Rip.Text.trim raw)).any (· == .parentDir) = false ∧
    p.comps = normals (components (Rip.Text.trim raw)) := by
  fun_cases parseRelPath raw
  next => exact error_ne_ok
  next => exact error_ne_ok
  next => exact error_ne_ok
  next _ ha hp =>
    intro h
    obtain rfl := Except.ok.inj h
    exact ⟨Bool.eq_false_iff.2 ha, Bool.eq_false_iff.2 hp, rfl⟩

theorem toRelative_ok {rootRaw raw : Bytes} {rel : List Component} :
    toRelative rootRaw raw = .ok rel → rel.any (· == .parentDir) = false := by
  fun_cases toRelative rootRaw raw
  next => exact error_ne_ok
  next => exact error_ne_ok
  next hp =>
    rintro ⟨⟩
    exact Bool.eq_false_iff.2 hp

end Rip.Paths
