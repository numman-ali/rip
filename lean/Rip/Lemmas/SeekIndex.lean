import Rip.Model.SeekIndex
/-!
An entry passes the per-use check iff it splits the sidecar at the frame it names, and a scan started
there that steps over the lines below its target is the scan from byte 0: every statement about a read
through the index comes from these two. The index-free read is the specification.
-/
namespace Rip.SeekIndex

/-! ### `fileLen`, `linesFrom` -/

theorem fileLen_append (a b : List Line) : fileLen (a ++ b) = fileLen a + fileLen b := by
  induction a with
  | nil => exact (Nat.zero_add _).symm
  | cons x xs ih =>
    show x.size + fileLen (xs ++ b) = x.size + fileLen xs + fileLen b
    rw [ih, Nat.add_assoc]

theorem fileLen_pos_cons (l : Line) (rest : List Line) : 0 < fileLen (l :: rest) :=
  Nat.add_pos_left (Nat.succ_pos l.len) _

theorem linesFrom_zero (ls : List Line) : linesFrom ls 0 = some ls := by
  cases ls <;> rfl

theorem linesFrom_size_add (l : Line) (ls : List Line) (off : Nat) :
    linesFrom (l :: ls) (l.size + off) = linesFrom ls off := by
  rw [Nat.add_comm]
  show (if off + l.size < l.size then none else linesFrom ls (off + l.size - l.size)) = _
  rw [if_neg (Nat.not_lt.mpr (Nat.le_add_left ..)), Nat.add_sub_cancel]

theorem linesFrom_fileLen (pre rest : List Line) : linesFrom (pre ++ rest) (fileLen pre) = some rest := by
  induction pre with
  | nil => exact linesFrom_zero rest
  | cons x xs ih => exact (linesFrom_size_add x (xs ++ rest) (fileLen xs)).trans ih

theorem linesFrom_eq_some_cons {ls : List Line} {off : Nat} {l : Line} {rest : List Line}
    (h : linesFrom ls off = some (l :: rest)) : ∃ pre, ls = pre ++ l :: rest ∧ off = fileLen pre := by
  fun_induction linesFrom ls off with
  | case1 => exact ⟨[], Option.some.inj h, rfl⟩
  | case2 => cases h
  | case3 => cases h
  | case4 x xs off hge ih =>
    obtain ⟨pre, h1, h2⟩ := ih h
    exact ⟨x :: pre, congrArg (x :: ·) h1, (Nat.sub_eq_iff_eq_add' (Nat.le_of_not_lt hge)).mp h2⟩

/-! ### `entryValid`, `bestEntry` -/

/-- `validate_seq_index_against_sidecar` accepts exactly the entries that point at the start of the
frame they name -/
theorem entryValid_iff (ls : List Line) (e : Entry) :
    entryValid ls e = true ↔
      ∃ pre l rest, ls = pre ++ l :: rest ∧ e.off = fileLen pre ∧ l.seq = e.seq := by
  constructor
  · intro h
    have h := (Bool.and_eq_true_iff.mp h).2
    split at h
    · rename_i l rest heq
      obtain ⟨pre, h1, h2⟩ := linesFrom_eq_some_cons heq
      exact ⟨pre, l, rest, h1, h2, eq_of_beq h⟩
    · cases h
  · rintro ⟨pre, l, rest, rfl, h2, h3⟩
    have hlt : e.off < fileLen (pre ++ l :: rest) := by
      rw [h2, fileLen_append]
      exact Nat.lt_add_of_pos_right (fileLen_pos_cons l rest)
    rw [entryValid, decide_eq_true hlt, h2, linesFrom_fileLen]
    exact beq_of_eq h3

theorem bestEntry_spec {es : List Entry} {t : Nat} {e : Entry} (h : bestEntry es t = some e) :
    e ∈ es ∧ e.seq ≤ t :=
  (List.mem_filter.mp (List.mem_of_getLast? h)).imp_right of_decide_eq_true

/-! ### a scan started through the index -/

theorem scan_skip {α : Type} (scan : Nat → List Line → α) (P : Line → Prop)
    (step : ∀ cur l ls, P l → scan cur (l :: ls) = scan (cur + l.size) ls)
    (pre rest : List Line) (cur : Nat) (hp : ∀ a ∈ pre, P a) :
    scan cur (pre ++ rest) = scan (cur + fileLen pre) rest := by
  induction pre generalizing cur with
  | nil => rfl
  | cons x xs ih =>
    obtain ⟨hx, hxs⟩ := List.forall_mem_cons.mp hp
    rw [List.cons_append, step _ _ _ hx, ih _ hxs, Nat.add_assoc]
    rfl

theorem boundaryGo_step (fromSeq total cur : Nat) {l : Line} (ls : List Line) (h : l.seq ≤ fromSeq) :
    boundaryGo fromSeq total cur (l :: ls) = boundaryGo fromSeq total (cur + l.size) ls :=
  if_neg (Nat.not_lt.mpr h)

theorem boundaryGo_skip (fromSeq total : Nat) (pre rest : List Line) (cur : Nat)
    (hp : ∀ a ∈ pre, a.seq ≤ fromSeq) :
    boundaryGo fromSeq total cur (pre ++ rest) = boundaryGo fromSeq total (cur + fileLen pre) rest :=
  scan_skip (boundaryGo fromSeq total) (·.seq ≤ fromSeq) (fun cur _ ls => boundaryGo_step fromSeq total cur ls)
    pre rest cur hp

theorem forwardGo_nil_of_le {s fromSeq b cur : Nat} {ls : List Line} (h : b ≤ cur) :
    forwardGo s fromSeq b cur ls = [] := by
  cases ls with
  | nil => rfl
  | cons x xs => exact if_pos h

/-- needs no `cur < b`: past the boundary both sides are `[]` -/
theorem forwardGo_step {s : Nat} (fromSeq b cur : Nat) {l : Line} (ls : List Line) (h : l.seq < s) :
    forwardGo s fromSeq b cur (l :: ls) = forwardGo s fromSeq b (cur + l.size) ls := by
  by_cases hb : b ≤ cur
  · rw [forwardGo_nil_of_le hb, forwardGo_nil_of_le (Nat.le_add_right_of_le hb)]
  · rw [forwardGo, if_neg hb, if_pos h]

theorem forwardGo_skip (s fromSeq b : Nat) (pre rest : List Line) (cur : Nat)
    (hp : ∀ a ∈ pre, a.seq < s) :
    forwardGo s fromSeq b cur (pre ++ rest) = forwardGo s fromSeq b (cur + fileLen pre) rest :=
  scan_skip (forwardGo s fromSeq b) (·.seq < s) (fun _ _ _ => forwardGo_step _ _ _ _) pre rest cur hp

/-- `step`: the scan steps over the lines below its target `t`. The left side is what `boundaryPos` and
`windowWith` unfold to. -/
theorem seek_scan_eq {α : Type} (scan : Nat → List Line → α) (t : Nat)
    (step : ∀ cur l ls, l.seq < t → scan cur (l :: ls) = scan (cur + l.size) ls)
    {ls : List Line} (hs : Sorted ls) (es : List Entry) :
    (match startOffset true ls es t with
      | none => none
      | some off => match linesFrom ls off with
        | none => none
        | some rest => some (scan off rest)) = (startOffset true ls es t).map fun _ => scan 0 ls := by
  unfold startOffset
  cases he : bestEntry es t with
  | none => simp only [linesFrom_zero, Option.map]
  | some e =>
    by_cases hv : entryValid ls e = true
    · -- the entry's frame has seq ≤ t and the sidecar is sorted: everything before it is below `t`
      obtain ⟨pre, l, rest, rfl, h2, h3⟩ := (entryValid_iff ls e).mp hv
      have hlt : ∀ a ∈ pre, a.seq < t := fun a ha =>
        Nat.lt_of_lt_of_le ((List.pairwise_append.mp hs).2.2 a ha l (List.mem_cons_self ..))
          (h3 ▸ (bestEntry_spec he).2)
      simp only [hv, Bool.not_true, Bool.and_false, Bool.false_eq_true, if_false, h2, linesFrom_fileLen,
        Option.map]
      rw [scan_skip scan (·.seq < t) step pre (l :: rest) 0 hlt, Nat.zero_add]
    · simp [hv]

theorem boundaryPos_true {ls : List Line} (hs : Sorted ls) (es : List Entry) (fromSeq : Nat) :
    boundaryPos true ls es fromSeq =
      (startOffset true ls es fromSeq).map fun _ => boundaryGo fromSeq (fileLen ls) 0 ls :=
  seek_scan_eq (boundaryGo fromSeq (fileLen ls)) fromSeq
    (fun cur _ ls hl => boundaryGo_step fromSeq _ cur ls (Nat.le_of_lt hl)) hs es

/-- with the per-use check the index decides only whether the read answers, never what -/
theorem windowWith_true (budget : Nat) {ls : List Line} (hs : Sorted ls) (es : List Entry)
    (fromSeq limit : Nat) :
    windowWith true budget ls es fromSeq limit =
      (startOffset true ls es fromSeq).bind fun _ =>
        (startOffset true ls es
          (startSeq ls (boundaryGo fromSeq (fileLen ls) 0 ls) fromSeq limit budget)).map fun _ =>
            windowLinear budget ls fromSeq limit := by
  unfold windowWith
  rw [boundaryPos_true hs]
  cases startOffset true ls es fromSeq with
  | none => rfl
  | some _ =>
    exact seek_scan_eq (forwardGo _ fromSeq _) _ (fun _ _ _ => forwardGo_step _ _ _ _) hs es

theorem window_checked (stride budget : Nat) (ls : List Line) (file : Option (List Entry))
    (fromSeq limit : Nat) (hs : Sorted ls) (r : List Nat)
    (h : window true stride budget ls file fromSeq limit = some r) :
    r = windowLinear budget ls fromSeq limit := by
  unfold window at h
  split at h
  · cases h
  · rw [windowWith_true budget hs] at h
    obtain ⟨_, _, h⟩ := Option.bind_eq_some_iff.mp h
    obtain ⟨_, _, h⟩ := Option.map_eq_some_iff.mp h
    exact h.symm

/-! ### a right index is used -/

def AllValid (ls : List Line) (es : List Entry) : Prop := ∀ e ∈ es, entryValid ls e = true

theorem startOffset_of_valid {ls : List Line} {es : List Entry} (hv : AllValid ls es) (t : Nat) :
    ∃ off, startOffset true ls es t = some off := by
  unfold startOffset
  split
  · exact ⟨0, rfl⟩
  · rename_i e he
    exact ⟨e.off, by rw [hv e ((bestEntry_spec he).1)]; rfl⟩

theorem windowWith_valid_exact (budget : Nat) (ls : List Line) (es : List Entry) (fromSeq limit : Nat)
    (hs : Sorted ls) (hv : AllValid ls es) :
    windowWith true budget ls es fromSeq limit = some (windowLinear budget ls fromSeq limit) := by
  obtain ⟨_, h1⟩ := startOffset_of_valid hv fromSeq
  obtain ⟨_, h2⟩ := startOffset_of_valid hv
    (startSeq ls (boundaryGo fromSeq (fileLen ls) 0 ls) fromSeq limit budget)
  rw [windowWith_true budget hs, h1, Option.bind_some, h2]
  rfl

/-! ### the index-free read is `windowSpec` -/

theorem boundaryGo_ge (fromSeq : Nat) {total cur : Nat} {ls : List Line} (h : cur + fileLen ls ≤ total) :
    cur ≤ boundaryGo fromSeq total cur ls := by
  fun_induction boundaryGo fromSeq total cur ls with
  | case1 => exact h
  | case2 => exact Nat.le_refl _
  | case3 cur x xs _ ih => exact Nat.le_trans (Nat.le_add_right ..) (ih (by rw [Nat.add_assoc]; exact h))

theorem windowSpec_cons (s fromSeq : Nat) (x : Line) (xs : List Line) :
    windowSpec s fromSeq (x :: xs) =
      (if x.keep && decide (s ≤ x.seq) && decide (x.seq ≤ fromSeq) then [x.seq] else []) ++
        windowSpec s fromSeq xs := by
  unfold windowSpec
  rw [List.filter_cons]
  cases x.keep && decide (s ≤ x.seq) && decide (x.seq ≤ fromSeq) <;> rfl

theorem windowSpec_nil_of_gt (s fromSeq : Nat) (ls : List Line) (h : ∀ a ∈ ls, fromSeq < a.seq) :
    windowSpec s fromSeq ls = [] := by
  unfold windowSpec
  rw [List.map_eq_nil_iff, List.filter_eq_nil_iff]
  intro a ha hk
  rw [Bool.and_eq_true, decide_eq_true_eq] at hk
  exact Nat.not_lt.mpr hk.2 (h a ha)

theorem forwardGo_cons (s : Nat) {fromSeq b cur : Nat} {x : Line} (xs : List Line) (hb : cur < b)
    (hf : x.seq ≤ fromSeq) :
    forwardGo s fromSeq b cur (x :: xs) =
      (if x.keep && decide (s ≤ x.seq) && decide (x.seq ≤ fromSeq) then [x.seq] else []) ++
        forwardGo s fromSeq b (cur + x.size) xs := by
  by_cases hlt : x.seq < s
  · rw [forwardGo_step _ _ _ _ hlt]
    simp [Nat.not_le.mpr hlt]
  · simp [forwardGo, Nat.not_le.mpr hb, hlt, hf, Nat.not_lt.mpr hf, Nat.le_of_not_lt hlt]

theorem forwardGo_spec (s fromSeq total cur : Nat) (ls : List Line) (hs : Sorted ls)
    (h : cur + fileLen ls ≤ total) :
    forwardGo s fromSeq (boundaryGo fromSeq total cur ls) cur ls = windowSpec s fromSeq ls := by
  fun_induction boundaryGo fromSeq total cur ls with
  | case1 => rfl
  | case2 cur x xs hgt =>
    -- the boundary is this line: the scan stops, and sortedness puts everything from here above the cut
    rw [forwardGo_nil_of_le (Nat.le_refl _), windowSpec_nil_of_gt]
    exact List.forall_mem_cons.mpr ⟨hgt, fun a ha => Nat.lt_trans hgt ((List.pairwise_cons.mp hs).1 a ha)⟩
  | case3 cur x xs hle ih =>
    have h' : cur + x.size + fileLen xs ≤ total := by rw [Nat.add_assoc]; exact h
    have hb : cur < boundaryGo fromSeq total (cur + x.size) xs :=
      Nat.lt_of_lt_of_le (Nat.lt_add_of_pos_right (Nat.succ_pos _)) (boundaryGo_ge _ h')
    rw [forwardGo_cons _ _ hb (Nat.le_of_not_lt hle), ih (List.pairwise_cons.mp hs).2 h', windowSpec_cons]

theorem windowLinear_spec (budget : Nat) (ls : List Line) (fromSeq limit : Nat) (hs : Sorted ls) :
    windowLinear budget ls fromSeq limit =
      windowSpec (startSeq ls (boundaryGo fromSeq (fileLen ls) 0 ls) fromSeq limit budget) fromSeq ls :=
  forwardGo_spec _ fromSeq (fileLen ls) 0 ls hs (Nat.le_of_eq (Nat.zero_add _))

/-! ### what `rebuild` writes -/

/-- line `i` carries seq `exp + i` -/
def ContigFrom : Nat → List Line → Prop
  | _, [] => True
  | exp, l :: ls => l.seq = exp ∧ ContigFrom (exp + 1) ls

theorem monoBy_cons (f : Entry → Nat) (a : Entry) (es : List Entry) (h : ∀ b ∈ es, f a ≤ f b)
    (hm : monoBy f es = true) : monoBy f (a :: es) = true := by
  cases es with
  | nil => rfl
  | cons b rest => exact Bool.and_eq_true_iff.mpr ⟨decide_eq_true (h b (List.mem_cons_self ..)), hm⟩

/-- stated for a scan that has the lines `pre` behind it, so that validity is about the one sidecar
`pre ++ ls` throughout the induction -/
theorem rebuildGo_spec {stride off exp : Nat} {ls : List Line} {es : List Entry} (pre : List Line)
    (ho : off = fileLen pre) (h : rebuildGo stride off exp ls = some es) :
    (∀ e ∈ es, exp ≤ e.seq ∧ off ≤ e.off ∧ entryValid (pre ++ ls) e = true) ∧
      monoBy (·.seq) es = true ∧ monoBy (·.off) es = true := by
  fun_induction rebuildGo stride off exp ls generalizing pre es with
  | case1 =>
    cases h
    exact ⟨List.forall_mem_nil _, rfl, rfl⟩
  | case2 => cases h
  | case3 => cases h
  | case4 off exp x xs hx es' h' ih =>
    obtain rfl : x.seq = exp := Decidable.of_not_not (mt bne_iff_ne.mpr hx)
    obtain rfl := Option.some.inj h
    subst ho
    obtain ⟨im, ims, imo⟩ := ih (pre ++ [x]) (fileLen_append pre [x]).symm h'
    have tail : ∀ e ∈ es', x.seq ≤ e.seq ∧ fileLen pre ≤ e.off ∧ entryValid (pre ++ x :: xs) e = true := by
      intro e he
      obtain ⟨h1, h2, h3⟩ := im e he
      exact ⟨Nat.le_of_succ_le h1, Nat.le_of_add_right_le h2, List.append_cons .. ▸ h3⟩
    by_cases hm : (x.seq % stride == 0) = true
    · rw [if_pos hm]
      exact ⟨List.forall_mem_cons.mpr
          ⟨⟨Nat.le_refl _, Nat.le_refl _, (entryValid_iff _ _).mpr ⟨pre, x, xs, rfl, rfl, rfl⟩⟩, tail⟩,
        monoBy_cons _ _ _ (fun b hb => (tail b hb).1) ims,
        monoBy_cons _ _ _ (fun b hb => (tail b hb).2.1) imo⟩
    · rw [if_neg hm]
      exact ⟨tail, ims, imo⟩

theorem rebuild_allValid {stride : Nat} {ls : List Line} {es : List Entry}
    (h : rebuild stride ls = some es) : AllValid ls es :=
  fun e he => ((rebuildGo_spec [] rfl h).1 e he).2.2

theorem rebuildGo_some (stride off exp : Nat) (ls : List Line) (hc : ContigFrom exp ls) :
    ∃ es, rebuildGo stride off exp ls = some es := by
  induction ls generalizing off exp with
  | nil => exact ⟨[], rfl⟩
  | cons x xs ih =>
    obtain ⟨rfl, h2⟩ := hc
    obtain ⟨es, hes⟩ := ih (off + x.size) (x.seq + 1) h2
    rw [rebuildGo, bne_self_eq_false, hes]
    exact ⟨_, rfl⟩

theorem contig_sorted (exp : Nat) (ls : List Line) (hc : ContigFrom exp ls) :
    Sorted ls ∧ ∀ a ∈ ls, exp ≤ a.seq := by
  induction ls generalizing exp with
  | nil => exact ⟨List.Pairwise.nil, List.forall_mem_nil _⟩
  | cons x xs ih =>
    obtain ⟨rfl, h2⟩ := hc
    obtain ⟨hs, hb⟩ := ih (x.seq + 1) h2
    exact ⟨List.pairwise_cons.mpr ⟨hb, hs⟩,
      List.forall_mem_cons.mpr ⟨Nat.le_refl _, fun a ha => Nat.le_of_succ_le (hb a ha)⟩⟩

theorem rebuild_contig (stride : Nat) {l : Line} {ls : List Line} (hc : ContigFrom 0 (l :: ls)) :
    ∃ a t, rebuild stride (l :: ls) = some (a :: t) := by
  -- frame 0 always gets an entry (0 % stride = 0), so the rebuilt index is not empty
  obtain ⟨t, ht⟩ := rebuildGo_some stride (0 + l.size) 1 ls hc.2
  refine ⟨⟨0, 0⟩, t, ?_⟩
  rw [rebuild, rebuildGo, hc.1, ht]
  rfl

/-- with the index file missing or rejected, `ensure_seq_index_v1` accepts a non-empty index that the
rebuild writes, with no hypothesis on the sidecar (`rebuildGo_spec`); the empty rebuild of an empty
sidecar is what `loadOk` refuses -/
theorem ensure_rebuilt {stride : Nat} {ls : List Line} {file : Option (List Entry)} {a : Entry}
    {t : List Entry} (hrej : match file with | some es => loadOk es = false | none => True)
    (hes : rebuild stride ls = some (a :: t)) : ensure stride ls file = some (a :: t) := by
  obtain ⟨_, hms, hmo⟩ := rebuildGo_spec [] rfl hes
  have hload : loadOk (a :: t) = true := by simp [loadOk, hms, hmo]
  obtain ⟨e, he⟩ : ∃ e, (a :: t).getLast? = some e :=
    ⟨_, List.getLast?_eq_some_getLast (List.cons_ne_nil a t)⟩
  have hlast := rebuild_allValid hes e (List.mem_of_getLast? he)
  unfold ensure
  cases file with
  | none => simp only [hes, hload, if_true, he, hlast]
  | some fes =>
    simp only [show loadOk fes = false from hrej, hes, hload, if_true, he, hlast,
      Bool.false_eq_true, if_false]

theorem window_rebuilt_exact (stride budget : Nat) (l : Line) (ls : List Line)
    (hc : ContigFrom 0 (l :: ls)) (file : Option (List Entry))
    (hrej : match file with | some es => loadOk es = false | none => True)
    (fromSeq limit : Nat) :
    window true stride budget (l :: ls) file fromSeq limit =
      some (windowLinear budget (l :: ls) fromSeq limit) := by
  obtain ⟨a, t, hes⟩ := rebuild_contig stride hc
  unfold window
  rw [ensure_rebuilt hrej hes]
  exact windowWith_valid_exact budget _ _ fromSeq limit (contig_sorted 0 _ hc).1 (rebuild_allValid hes)

end Rip.SeekIndex
