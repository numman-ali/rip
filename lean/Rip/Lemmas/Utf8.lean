import Rip.Model.Utf8
/-!
`Rip.Utf8.step` read as a table: the lead byte fixes one predicate per further byte of the sequence
(`tailOf`), and a four-line scanner (`scan`) checks the input against them. What the chunking proofs
need of `step` — it looks only at the bytes it reports on — is then an induction over `scan`.
-/
namespace Rip.Utf8
open Rip.Proto

def cont (b : UInt8) : Bool := inR b 0x80 0xBF

/-- What must follow the lead byte `b0`, byte by byte (the well-formed ranges of
`run_utf8_validation`); `none` if `b0` starts no sequence. -/
def tailOf (b0 : UInt8) : Option (List (UInt8 → Bool)) :=
  if b0 < 0x80 then some []
  else if inR b0 0xC2 0xDF then some [cont]
  else if inR b0 0xE0 0xEF then
    some [fun b1 => if b0 == 0xE0 then inR b1 0xA0 0xBF else if b0 == 0xED then inR b1 0x80 0x9F
      else inR b1 0x80 0xBF, cont]
  else if inR b0 0xF0 0xF4 then
    some [fun b1 => if b0 == 0xF0 then inR b1 0x90 0xBF else if b0 == 0xF4 then inR b1 0x80 0x8F
      else inR b1 0x80 0xBF, cont, cont]
  else none

/-- Check `r` against the predicates, `k` bytes of the sequence being accepted already. -/
def scan : List (UInt8 → Bool) → Bytes → Nat → Step
  | [], _, k => .ok k
  | _ :: _, [], _ => .incomplete
  | p :: ps, b :: r, k => if p b then scan ps r (k + 1) else .invalid k

/-- `scan` behind a lead byte, given that byte's row of `tailOf`; `none`: the byte starts no sequence -/
def scanTail (r : Bytes) : Option (List (UInt8 → Bool)) → Step
  | some ps => scan ps r 1
  | none => .invalid 1

theorem ite_bnot {α : Type} (c : Bool) (a b : α) : (if !c then a else b) = if c then b else a := by
  cases c <;> rfl

theorem step_cons (b0 : UInt8) (r : Bytes) : step (b0 :: r) = scanTail r (tailOf b0) := by
  -- with `scanTail` pushed through the `if`s of `tailOf`, both sides are the same chain of tests on
  -- `b0`; class by class, `step` inspects as many bytes of `r` as `tailOf` has predicates, testing
  -- `!ok` where `scan` tests `ok` (a `split` here or `simp only [step, …]` per length of `r` is dearer)
  unfold step tailOf
  rw [apply_ite (scanTail r), apply_ite (scanTail r), apply_ite (scanTail r), apply_ite (scanTail r)]
  refine ite_congr rfl (fun _ => rfl) fun _ => ite_congr rfl (fun _ => ?_) fun _ =>
    ite_congr rfl (fun _ => ?_) fun _ => ite_congr rfl (fun _ => ?_) fun _ => rfl
  · cases r <;> rfl
  · rcases r with _ | ⟨b1, _ | ⟨b2, r⟩⟩
    · rfl
    · exact ite_bnot ..
    · exact ite_bnot ..
  · rcases r with _ | ⟨b1, _ | ⟨b2, _ | ⟨b3, r⟩⟩⟩
    · rfl
    · exact ite_bnot ..
    · exact (ite_bnot ..).trans (ite_congr rfl (fun _ => ite_bnot ..) fun _ => rfl)
    · exact (ite_bnot ..).trans (ite_congr rfl (fun _ => ite_bnot ..) fun _ => rfl)

theorem scan_append {ps : List (UInt8 → Bool)} {r : Bytes} {k : Nat} (t : Bytes)
    (h : scan ps r k ≠ .incomplete) : scan ps (r ++ t) k = scan ps r k := by
  fun_induction scan ps r k with
  | case1 => rfl
  | case2 => exact absurd rfl h
  | case3 p ps b r k hp ih => rw [List.cons_append, scan, if_pos hp, ih h]
  | case4 p ps b r k hp => rw [List.cons_append, scan, if_neg hp]

theorem scan_bound {ps : List (UInt8 → Bool)} {r : Bytes} {k n : Nat}
    (h : scan ps r k = .ok n ∨ scan ps r k = .invalid n) : k ≤ n ∧ n ≤ r.length + k := by
  fun_induction scan ps r k with
  | case1 | case4 =>
    rcases h with h | h <;> cases h
    exact ⟨Nat.le_refl _, Nat.le_add_left _ _⟩
  | case2 => rcases h with h | h <;> cases h
  | case3 p ps b r k hp ih =>
    rw [List.length_cons, Nat.add_right_comm]
    exact ⟨Nat.le_of_succ_le (ih h).1, (ih h).2⟩

/-- stated of a verdict `v`: the callers hold `step s = .ok n` or `.invalid n` and pass `nofun` for `hv` -/
theorem step_append {s : Bytes} {v : Step} (t : Bytes) (h : step s = v) (hv : v ≠ .incomplete) :
    step (s ++ t) = v := by
  subst h
  cases s with
  | nil => exact absurd rfl hv
  | cons b0 r =>
    rw [List.cons_append, step_cons, step_cons] at *
    generalize tailOf b0 = o at hv ⊢
    cases o with
    | none => rfl
    | some ps => exact scan_append t hv

theorem step_bound {s : Bytes} {n : Nat} (h : step s = .ok n ∨ step s = .invalid n) :
    1 ≤ n ∧ n ≤ s.length := by
  cases s with
  | nil => rcases h with h | h <;> cases h
  | cons b0 r =>
    rw [step_cons] at h
    generalize tailOf b0 = o at h
    cases o with
    | none =>
      rcases h with h | h <;> cases h
      exact ⟨Nat.le_refl _, Nat.le_add_left _ _⟩
    | some ps => exact scan_bound h

theorem step_drop_lt {s : Bytes} {n : Nat} (h : step s = .ok n ∨ step s = .invalid n) :
    (s.drop n).length < s.length := by
  have hb := step_bound h
  rw [List.length_drop]
  exact Nat.sub_lt (Nat.lt_of_lt_of_le hb.1 hb.2) hb.1

/-! ### `validateAux`: one unfolding step -/

theorem validateAux_nil (pos fuel : Nat) : validateAux [] pos fuel = none := by
  cases fuel <;> rfl

theorem validateAux_succ (s : Bytes) (pos f : Nat) :
    validateAux s pos (f + 1) = match step s with
      | .ok n => validateAux (s.drop n) (pos + n) f
      | .invalid e => some (pos, some e)
      | .incomplete => if s = [] then none else some (pos, none) := by
  cases s with
  | nil => rfl
  | cons x xs => rw [validateAux]; cases step (x :: xs) <;> rfl

end Rip.Utf8
