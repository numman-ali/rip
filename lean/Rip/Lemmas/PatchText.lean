import Rip.Model.Patch
/-!
C12: line-ending style and trailing newline of text updates
(`apply_hunks_to_text` = `split_lines` ; hunk loop ; `join_lines`).
LF is `10`, CR is `13`. A text is seen as `render le L z`: lines `L`, each followed by the terminator
`le`, and an unterminated rest `z`. Every text is `render [10] P z` with LF-free `P`, `z`, and the
readers are described on that form; `joinLines` writes renders, and a terminator `cr ++ [10]` is an
LF behind lines that end in `cr`.
-/
namespace Rip.Patch
open Rip.Proto

/-- a line as the patch parser and `split_lines` produce it: no LF inside, and no CR at its end -/
def CleanLine (l : Bytes) : Prop := 10 ∉ l ∧ l.getLast? ≠ some 13
/-- the line terminator chosen by `apply_hunks_to_text` -/
def leOf (original : Bytes) : Bytes := if hasCrLf original then [13, 10] else [10]

/-! ### texts as terminated lines: `render` -/

/-- the text whose lines `L` are each followed by `le`, with the unterminated rest `z` -/
def render (le : Bytes) (L : List Bytes) (z : Bytes) : Bytes := (L.map (· ++ le)).flatten ++ z

theorem render_cons (le x z : Bytes) (L : List Bytes) :
    render le (x :: L) z = x ++ le ++ render le L z :=
  List.append_assoc _ _ _

theorem render_snoc (le z : Bytes) (L : List Bytes) :
    render le (L ++ [z]) [] = render le L z ++ le := by
  simp [render]

theorem render_append (le l z : Bytes) (L₁ L₂ : List Bytes) :
    render le (L₁ ++ l :: L₂) z = render le L₁ l ++ (le ++ render le L₂ z) := by
  simp [render]

/-- the CR part of a terminator can be counted with the lines -/
theorem render_map_append (cr le z : Bytes) (L : List Bytes) :
    render le (L.map (· ++ cr)) z = render (cr ++ le) L z := by
  simp [render, List.map_map, Function.comp_def]

theorem intercalate_cons_of_ne_nil (sep x : Bytes) {l : List Bytes} (h : l ≠ []) :
    intercalate sep (x :: l) = x ++ sep ++ intercalate sep l := by
  cases l with
  | nil => exact absurd rfl h
  | cons y ys => rfl

theorem intercalate_cons_snoc (sep x z : Bytes) (l : List Bytes) :
    intercalate sep (x :: (l ++ [z])) = x ++ sep ++ intercalate sep (l ++ [z]) :=
  intercalate_cons_of_ne_nil sep x (List.append_ne_nil_of_right_ne_nil l (List.cons_ne_nil z []))

theorem intercalate_snoc (sep z : Bytes) (L : List Bytes) :
    intercalate sep (L ++ [z]) = render sep L z := by
  induction L with
  | nil => rfl
  | cons x xs ih =>
    rw [render_cons, ← ih]
    exact intercalate_cons_snoc sep x z xs

theorem intercalate_snoc_nil (sep : Bytes) (ls : List Bytes) (hne : ls ≠ []) :
    intercalate sep (ls ++ [[]]) = intercalate sep ls ++ sep := by
  obtain ⟨L, z, rfl⟩ : ∃ L z, ls = L ++ [z] := ⟨_, _, (List.dropLast_concat_getLast hne).symm⟩
  rw [intercalate_snoc, render_snoc, intercalate_snoc]

theorem joinLines_eq (ls : List Bytes) (t : Bool) (le : Bytes) (hne : ls ≠ []) :
    joinLines ls t le = intercalate le (if t then ls ++ [[]] else ls) := by
  rw [joinLines, List.isEmpty_eq_false_iff.2 hne]
  cases t with
  | false => rfl
  | true => exact (intercalate_snoc_nil le ls hne).symm

theorem joinLines_false (L : List Bytes) (z le : Bytes) :
    joinLines (L ++ [z]) false le = render le L z :=
  (joinLines_eq _ false le (by simp)).trans (intercalate_snoc le z L)

theorem joinLines_true (ls : List Bytes) (le : Bytes) : joinLines ls true le = render le ls [] := by
  by_cases hne : ls = []
  · subst hne
    rfl
  · exact (joinLines_eq ls true le hne).trans (intercalate_snoc le [] ls)

theorem render_getLast? (P : List Bytes) (z : Bytes) :
    (render [10] P z).getLast?
      = if z = [] then (if P = [] then none else some 10) else z.getLast? := by
  by_cases hz : z = []
  · subst hz
    rcases List.eq_nil_or_concat P with rfl | ⟨P', x, rfl⟩
    · rfl
    · rw [List.concat_eq_append, render_snoc]
      simp
  · rw [if_neg hz, render, List.getLast?_append, List.getLast?_eq_some_getLast hz]
    rfl

theorem mem_render_of_mem (le z : Bytes) {L : List Bytes} {l : Bytes} (hl : l ∈ L) {b : UInt8}
    (hb : b ∈ l) : b ∈ render le L z :=
  List.mem_append_left _
    (List.mem_flatten.2 ⟨l ++ le, List.mem_map.2 ⟨l, hl, rfl⟩, List.mem_append_left _ hb⟩)

theorem exists_render (s : Bytes) :
    ∃ P z, (∀ l ∈ P, 10 ∉ l) ∧ 10 ∉ z ∧ s = render [10] P z := by
  induction s with
  | nil => exact ⟨[], [], List.forall_mem_nil _, List.not_mem_nil, rfl⟩
  | cons b s ih =>
    obtain ⟨P, z, hP, hz, rfl⟩ := ih
    by_cases hb : b = 10
    · subst hb
      exact ⟨[] :: P, z, List.forall_mem_cons.2 ⟨List.not_mem_nil, hP⟩, hz, rfl⟩
    · -- `b` joins the first line, or the rest if there is no line
      cases P with
      | nil => exact ⟨[], b :: z, hP, by simp [hz, Ne.symm hb], rfl⟩
      | cons p P =>
        obtain ⟨hp, hP⟩ := List.forall_mem_cons.1 hP
        exact ⟨(b :: p) :: P, z, List.forall_mem_cons.2 ⟨by simp [hp, Ne.symm hb], hP⟩, hz, rfl⟩

/-! ### `splitOnNl` reads a rendered text back -/

theorem splitOnNl_go_of_noLf (l r cur : Bytes) (h : 10 ∉ l) :
    splitOnNl.go (l ++ r) cur = splitOnNl.go r (l.reverse ++ cur) := by
  induction l generalizing cur with
  | nil => rfl
  | cons b l ih =>
    have hb : b ≠ 10 := (List.ne_of_not_mem_cons h).symm
    simp [splitOnNl.go, hb, ih _ (List.not_mem_of_not_mem_cons h)]

theorem splitOnNl_noLf (l : Bytes) (h : 10 ∉ l) : splitOnNl l = [l] := by
  simpa [splitOnNl, splitOnNl.go] using splitOnNl_go_of_noLf l [] [] h

theorem splitOnNl_append (l r : Bytes) (h : 10 ∉ l) :
    splitOnNl (l ++ 10 :: r) = l :: splitOnNl r := by
  simpa [splitOnNl, splitOnNl.go] using splitOnNl_go_of_noLf l (10 :: r) [] h

theorem splitOnNl_render (P : List Bytes) (z : Bytes) (hP : ∀ l ∈ P, 10 ∉ l) (hz : 10 ∉ z) :
    splitOnNl (render [10] P z) = P ++ [z] := by
  induction P with
  | nil => exact splitOnNl_noLf z hz
  | cons x xs ih =>
    obtain ⟨hx, hxs⟩ := List.forall_mem_cons.1 hP
    rw [render_cons, List.append_assoc, List.singleton_append, splitOnNl_append _ _ hx, ih hxs]
    rfl

theorem intercalate_splitOnNl (s : Bytes) : intercalate [10] (splitOnNl s) = s := by
  obtain ⟨P, z, hP, hz, rfl⟩ := exists_render s
  rw [splitOnNl_render P z hP hz, intercalate_snoc]

/-! ### `stripCr` -/

theorem stripCr_of_ne (l : Bytes) (h : l.getLast? ≠ some 13) : stripCr l = l := by
  fun_cases stripCr l with
  | case1 h' => exact absurd h' h
  | case2 => rfl

theorem stripCr_snoc13 (x : Bytes) : stripCr (x ++ [13]) = x := by
  rw [stripCr, List.getLast?_concat]
  exact List.dropLast_concat

theorem stripCr_nil : stripCr [] = [] := rfl

theorem stripCr_sub (l : Bytes) : ∀ b ∈ stripCr l, b ∈ l := by
  fun_cases stripCr l
  · exact List.dropLast_subset l
  · exact fun _ hb => hb

theorem stripCr_append_of_getLast (l : Bytes) (h : l.getLast? = some 13) :
    stripCr l ++ [13] = l := by
  obtain ⟨x, rfl⟩ := List.getLast?_eq_some_iff.1 h
  rw [stripCr_snoc13]

/-! ### `splitLines` of a rendered text -/

/-- an empty rest behind at least one line is the trailing newline; otherwise the rest is the last
line -/
theorem splitLines_render (P : List Bytes) (z : Bytes) (hP : ∀ l ∈ P, 10 ∉ l) (hz : 10 ∉ z) :
    splitLines (render [10] P z) =
      if z = [] ∧ P ≠ [] then (P.map stripCr, true) else (P.map stripCr ++ [stripCr z], false) := by
  unfold splitLines
  rw [splitOnNl_render P z hP hz, List.map_append, List.map_singleton, render_getLast?]
  by_cases hz0 : z = []
  · subst hz0
    by_cases hP0 : P = []
    · subst hP0
      rfl
    · rw [if_pos rfl, if_neg hP0, if_pos (And.intro rfl hP0)]
      exact congrArg (·, true) List.dropLast_concat
  · -- given by name: instance search tries five order-based `LawfulBEq UInt8` instances first, each time
    have : LawfulBEq UInt8 := instLawfulBEq
    have : z.getLast? ≠ some 10 := fun e => hz (List.mem_of_getLast? e)
    simp [hz0, this]

theorem splitLines_noLf (text : Bytes) : ∀ l ∈ (splitLines text).1, 10 ∉ l := by
  obtain ⟨P, z, hP, hz, rfl⟩ := exists_render text
  have hstrip : ∀ l ∈ P.map stripCr, 10 ∉ l :=
    List.forall_mem_map.2 fun p hp h => hP p hp (stripCr_sub p 10 h)
  rw [splitLines_render P z hP hz]
  split
  · exact hstrip
  · exact List.forall_mem_append.2
      ⟨hstrip, List.forall_mem_singleton.2 fun h => hz (stripCr_sub z 10 h)⟩

/-! ### `hasCrLf` -/

theorem hasCrLf_cons (x : UInt8) (r : Bytes) :
    hasCrLf (x :: r) = (decide (x = 13 ∧ r.head? = some 10) || hasCrLf r) := by
  by_cases h : x = 13 ∧ r.head? = some 10
  · obtain ⟨rfl, hr⟩ := h
    obtain ⟨t, rfl⟩ := List.head?_eq_some_iff.1 hr
    rfl
  · -- not the pair: the scan moves on
    rw [decide_eq_false h, Bool.false_or]
    exact hasCrLf.eq_2 x r fun t hx hr => h ⟨hx, hr ▸ rfl⟩

theorem hasCrLf_append (a b : Bytes) :
    hasCrLf (a ++ b)
      = (hasCrLf a || decide (a.getLast? = some 13 ∧ b.head? = some 10) || hasCrLf b) := by
  induction a with
  | nil => rfl
  | cons x a ih =>
    rw [List.cons_append, hasCrLf_cons, ih, hasCrLf_cons]
    cases a with
    | nil => simp [hasCrLf]
    | cons y ys =>
      -- `rw`, not `simp only`: the `Decidable` instances inside `decide` mention the lists too
      rw [List.cons_append, List.head?_cons, List.head?_cons, List.getLast?_cons_cons]
      simp only [Bool.or_assoc]

theorem hasCrLf_of_noLf (l : Bytes) (h : 10 ∉ l) : hasCrLf l = false := by
  fun_induction hasCrLf l with
  | case1 => simp at h
  | case2 x r _ ih => exact ih fun e => h (List.mem_cons_of_mem x e)
  | case3 => rfl

/-- a CRLF pair in a text is a terminated line that ends in CR -/
theorem hasCrLf_render (P : List Bytes) (z : Bytes) (hP : ∀ l ∈ P, 10 ∉ l) (hz : 10 ∉ z) :
    hasCrLf (render [10] P z) = P.any fun l => decide (l.getLast? = some 13) := by
  induction P with
  | nil => exact hasCrLf_of_noLf z hz
  | cons x xs ih =>
    obtain ⟨hx, hxs⟩ := List.forall_mem_cons.1 hP
    rw [render_cons, List.append_assoc, hasCrLf_append, hasCrLf_of_noLf x hx, List.singleton_append,
      hasCrLf_cons, ih hxs]
    simp

/-! ### re-reading what was written -/

theorem render_read (s : Bytes) {L : List Bytes} {z : Bytes}
    (hL : ∀ l ∈ L, CleanLine l) (hz : CleanLine z) :
    splitLines (render (leOf s) L z)
      = (if z = [] ∧ L ≠ [] then (L, true) else (L ++ [z], false)) ∧
    hasCrLf (render (leOf s) L z) = (hasCrLf s && !L.isEmpty) := by
  -- the terminator is `cr ++ [10]`, with a CR iff `s` has a CRLF pair
  obtain ⟨cr, hcr, hle, hc⟩ : ∃ cr : Bytes, (cr = [] ∨ cr = [13]) ∧
      leOf s = cr ++ [10] ∧ hasCrLf s = (cr == [13]) := by
    unfold leOf
    cases hasCrLf s
    · exact ⟨[], .inl rfl, rfl, rfl⟩
    · exact ⟨[13], .inr rfl, rfl, rfl⟩
  rw [hle, hc]
  -- the lines as `splitOnNl` sees them: with the CR part of the terminator
  have hlf : ∀ l ∈ L.map (· ++ cr), 10 ∉ l :=
    List.forall_mem_map.2 fun x hx => by rcases hcr with rfl | rfl <;> simp [(hL x hx).1]
  rw [← render_map_append]
  constructor
  · have hmap : (L.map (· ++ cr)).map stripCr = L := by
      rw [List.map_map]
      refine (List.map_congr_left fun x hx => ?_).trans (List.map_id L)
      rcases hcr with rfl | rfl
      · simpa using stripCr_of_ne x (hL x hx).2
      · exact stripCr_snoc13 x
    rw [splitLines_render _ z hlf hz.1, hmap, stripCr_of_ne z hz.2]
    simp only [ne_eq, List.map_eq_nil_iff]
  · rw [hasCrLf_render _ z hlf hz.1]
    rcases hcr with rfl | rfl
    · -- no line ends in CR, so no LF terminator completes a pair
      exact List.any_eq_false.2 (List.forall_mem_map.2 fun x hx => by simpa using (hL x hx).2)
    · -- every terminator is a pair: the first line already ends in one
      cases L with
      | nil => rfl
      | cons x xs =>
        rw [List.map_cons, List.any_cons, List.getLast?_concat]
        rfl

theorem joinLines_read (ls : List Bytes) (t : Bool) (s : Bytes) (hne : ls ≠ [])
    (hclean : ∀ l ∈ ls, CleanLine l) (hlast : t = true ∨ ls.getLast? ≠ some []) :
    splitLines (joinLines ls t (leOf s)) = (ls, t) ∧
    hasCrLf (joinLines ls t (leOf s)) = (hasCrLf s && (t || decide (2 ≤ ls.length))) := by
  cases t with
  | true =>
    have := render_read s hclean (z := []) ⟨List.not_mem_nil, nofun⟩
    rw [if_pos ⟨rfl, hne⟩, List.isEmpty_eq_false_iff.2 hne] at this
    rwa [joinLines_true]
  | false =>
    obtain ⟨L, z, rfl⟩ : ∃ L z, ls = L ++ [z] := ⟨_, _, (List.dropLast_concat_getLast hne).symm⟩
    have hz : z ≠ [] := by
      rintro rfl
      exact hlast.resolve_left Bool.false_ne_true List.getLast?_concat
    obtain ⟨hL, hcz⟩ := List.forall_mem_append.1 hclean
    have := render_read s hL (List.forall_mem_singleton.1 hcz)
    rw [if_neg fun h => hz h.1] at this
    rw [joinLines_false]
    refine ⟨this.1, this.2.trans ?_⟩
    -- at least two lines: at least one terminated line before the rest
    cases L <;> simp

/-! ### split ; join, and where it is the identity -/

/-- split ; join strips the CR before every LF and a CR at the very end of the text, and terminates the
lines again with `le` -/
theorem joinLines_splitLines_render (P : List Bytes) (z le : Bytes)
    (hP : ∀ l ∈ P, 10 ∉ l) (hz : 10 ∉ z) :
    joinLines (splitLines (render [10] P z)).1 (splitLines (render [10] P z)).2 le
      = render le (P.map stripCr) (stripCr z) := by
  rw [splitLines_render P z hP hz]
  split
  · next h => rw [joinLines_true, h.1, stripCr_nil]
  · rw [joinLines_false]

/-- the identity: what `stripCr` removes from a terminated line is exactly the CR part `cr` of the
terminator (`hterm`: for `cr = []` no line ends in CR, for `cr = [13]` every line does), and the rest
does not end in a CR -/
theorem joinLines_splitLines_core (cr z : Bytes) (P : List Bytes)
    (hP : ∀ l ∈ P, 10 ∉ l) (hz : 10 ∉ z)
    (hterm : ∀ l ∈ P, stripCr l ++ cr = l) (hend : z.getLast? ≠ some 13) :
    joinLines (splitLines (render [10] P z)).1 (splitLines (render [10] P z)).2 (cr ++ [10])
      = render [10] P z := by
  have hmap : (P.map stripCr).map (· ++ cr) = P := by
    rw [List.map_map]
    exact (List.map_congr_left hterm).trans (List.map_id P)
  rw [joinLines_splitLines_render P z _ hP hz, ← render_map_append, hmap, stripCr_of_ne z hend]

theorem joinLines_splitLines_lf (text : Bytes) (hcr : 13 ∉ text) :
    joinLines (splitLines text).1 (splitLines text).2 [10] = text := by
  obtain ⟨P, z, hP, hz, rfl⟩ := exists_render text
  refine joinLines_splitLines_core [] z P hP hz (fun l hl => ?_) fun e => ?_
  · rw [List.append_nil]
    exact stripCr_of_ne l fun e => hcr (mem_render_of_mem _ _ hl (List.mem_of_getLast? e))
  · exact hcr (List.mem_append_right _ (List.mem_of_getLast? e))

/-- FALSE without `hend`: in "\r\n\r" the unterminated piece ends in a bare CR, which `split_lines`
strips and `join_lines` cannot restore (example at the end of the file). -/
theorem joinLines_splitLines_crlf (text : Bytes)
    (hstyle : ∀ i : Nat, text[i]? = some 10 → 0 < i ∧ text[i-1]? = some 13)
    (hend : text.getLast? ≠ some 13) :
    joinLines (splitLines text).1 (splitLines text).2 [13, 10] = text := by
  have hstyle' : ∀ a b, text = a ++ 10 :: b → a.getLast? = some 13 := by
    rintro a b rfl
    obtain ⟨hpos, h2⟩ := hstyle a.length (by simp)
    rw [List.getElem?_append_left (Nat.sub_one_lt (Nat.ne_of_gt hpos))] at h2
    exact List.getLast?_eq_getElem?.trans h2
  obtain ⟨P, z, hP, hz, rfl⟩ := exists_render text
  refine joinLines_splitLines_core [13] z P hP hz (fun l hl => ?_) fun e => ?_
  · -- the LF that terminates `l` follows a CR, which is the last byte of `l`
    obtain ⟨P₁, P₂, rfl⟩ := List.append_of_mem hl
    have h13 := hstyle' _ _ (render_append [10] l z P₁ P₂)
    apply stripCr_append_of_getLast
    rw [render_getLast?] at h13
    by_cases hl0 : l = []
    · -- an empty `l` would put an LF, or nothing, before that LF
      by_cases hP₁ : P₁ = [] <;> simp [hl0, hP₁] at h13
    · rwa [if_neg hl0] at h13
  · rw [render_getLast?, if_neg (List.ne_nil_of_mem (List.mem_of_getLast? e))] at hend
    exact hend e

/-! ### the hunk loop and the whole update -/

theorem applyHunksLines_forall (p : Bytes → Prop) (hs : List Hunk)
    (hafter : ∀ hk ∈ hs, ∀ l ∈ hk.after, p l) (lines : List Bytes) (cursor : Nat) (out : List Bytes)
    (h : applyHunksLines lines cursor hs = some out) (hlines : ∀ l ∈ lines, p l) :
    ∀ l ∈ out, p l := by
  fun_induction applyHunksLines lines cursor hs with
  | case1 =>
    cases h
    exact hlines
  | case2 lines _ hk hs _ _ ih =>
    -- no context: the hunk's lines are appended
    obtain ⟨hk', hafter⟩ := List.forall_mem_cons.1 hafter
    exact ih hafter h (List.forall_mem_append.2 ⟨hlines, hk'⟩)
  | case3 => cases h
  | case4 lines _ hk hs _ pos _ _ ih =>
    -- the context found at `pos` is replaced
    obtain ⟨hk', hafter⟩ := List.forall_mem_cons.1 hafter
    exact ih hafter h (List.forall_mem_append.2 ⟨List.forall_mem_append.2
      ⟨fun l hl => hlines l (List.mem_of_mem_take hl), hk'⟩,
      fun l hl => hlines l (List.mem_of_mem_drop hl)⟩)

theorem applyHunks_eq (original : Bytes) (hunks : List Hunk) :
    applyHunks original hunks = (applyHunksLines (splitLines original).1 0 hunks).map
      fun ls => joinLines ls (splitLines original).2 (leOf original) := by
  unfold applyHunks
  simp only
  cases applyHunksLines (splitLines original).1 0 hunks <;> rfl

/-! ### non-vacuity checks on concrete byte strings -/

/-- "a\r\nb\r\n", replace "b" by "c","d": CRLF style and the trailing newline are kept -/
example : applyHunks [97, 13, 10, 98, 13, 10] [⟨[[98]], [[99], [100]]⟩]
    = some [97, 13, 10, 99, 13, 10, 100, 13, 10] := by decide

/-- "a\nb" without a final newline, replace "b" by "c": LF style, still no final newline -/
example : applyHunks [97, 10, 98] [⟨[[98]], [[99]]⟩] = some [97, 10, 99] := by decide

/-- the hypotheses of `C12.update_preserves_style_and_trailing_newline` hold on the first example -/
example : splitLines [97, 13, 10, 98, 13, 10] = ([[97], [98]], true) ∧
    applyHunksLines [[97], [98]] 0 [⟨[[98]], [[99], [100]]⟩] = some [[97], [99], [100]] ∧
    hasCrLf [97, 13, 10, 99, 13, 10, 100, 13, 10] = true ∧
    splitLines [97, 13, 10, 99, 13, 10, 100, 13, 10] = ([[97], [99], [100]], true) := by decide

/-- why `joinLines_splitLines_crlf` needs `hend`: "\r\n\r" loses its final bare CR -/
example : joinLines (splitLines [13, 10, 13]).1 (splitLines [13, 10, 13]).2 (leOf [13, 10, 13])
    = [13, 10] := by decide

end Rip.Patch
