import Rip.Lemmas.PatchExact
import Rip.Lemmas.Basic
/-!
C12: all-or-nothing for `applyPatchOps`. `RR` is what the reverse-order revert needs of file system
and undo list, and consumes entry by entry; `Inv` adds what keeps `RR` true while operations succeed.
A failing operation stops in an `Inv` state, or just after recording an absent path whose parent it
could not create: still `RR`.
-/
namespace Rip.Patch
open Rip.Proto Rip.Basic

def keys (u : Undo) : List Path := u.map Prod.fst

theorem keys_snoc (u : Undo) (x : Path) (v : Option Bytes) : keys (u ++ [(x, v)]) = keys u ++ [x] :=
  List.map_append

theorem not_mem_keys_snoc {u : Undo} {x q : Path} {v : Option Bytes} :
    q ∉ keys (u ++ [(x, v)]) ↔ q ∉ keys u ∧ q ≠ x := by
  rw [keys_snoc, List.mem_append, List.mem_singleton, not_or]

theorem any_key (u : Undo) (x : Path) : u.any (fun e => e.1 = x) = true ↔ x ∈ keys u := by
  simp only [List.any_eq_true, decide_eq_true_eq, keys, List.mem_map]

theorem recordUndo_some {fs : FS} {u u' : Undo} {x : Path} : recordUndo fs u x = some u' →
    (x ∈ keys u ∧ u' = u) ∨ (x ∉ keys u ∧ u' = u ++ [(x, fs.file x)]) := by
  fun_cases recordUndo fs u x
  next hany =>
    rintro ⟨⟩
    exact .inl ⟨(any_key u x).mp hany, rfl⟩
  next hany _ b hb =>
    rintro ⟨⟩
    exact .inr ⟨mt (any_key u x).mpr hany, by rw [hb]⟩
  next => exact none_ne_some
  next hany he =>
    rintro ⟨⟩
    exact .inr ⟨mt (any_key u x).mpr hany, by rw [(exists_eq_false.mp (Bool.eq_false_iff.2 he)).1]⟩

theorem recordUndo_mem {fs : FS} {u u' : Undo} {x : Path} (h : recordUndo fs u x = some u') :
    x ∈ keys u' ∧ ∀ k, k ∈ keys u → k ∈ keys u' := by
  rcases recordUndo_some h with ⟨h1, rfl⟩ | ⟨_, rfl⟩
  · exact ⟨h1, fun _ hk => hk⟩
  · rw [keys_snoc]
    exact ⟨List.mem_concat_self, fun k hk => List.mem_append_left _ hk⟩

/-! ### the two invariants -/

/-- ordering of the undo list: an earlier key is never strictly below a later entry that recorded
a file. When the revert reaches that file, what the patch put below it is gone already. -/
abbrev NotBelowLaterFile (e1 e2 : Path × Option Bytes) : Prop :=
  e2.2 ≠ none → e2.1 <+: e1.1 → e1.1 ≠ e2.1 → False

/-- what the revert relies on ("revert-ready"): off the undo keys the files are those of `fs0`, the
recorded values are those of `fs0`, its directories are still there, the list is ordered -/
structure RR (fs0 fs : FS) (u : Undo) : Prop where
  same : ∀ q, q ∉ keys u → fs.file q = fs0.file q
  val : ∀ p v, (p, v) ∈ u → v = fs0.file p
  dirs : ∀ q, fs0.dir q = true → fs.dir q = true
  ord : u.Pairwise NotBelowLaterFile

/-- `anc`: a path above a recorded one is recorded too, or is no file of `fs0`. This is what puts a
newly recorded file after every path below it (`ord`): had one been recorded earlier, the file would
be as well. -/
structure Inv (fs0 fs : FS) (u : Undo) : Prop extends RR fs0 fs u where
  wf : WF fs
  anc : ∀ x, x ∈ keys u → ∀ p, p <+: x → p ≠ x → p ∉ keys u → fs0.file p = none

theorem RR_append {fs0 fs : FS} {u : Undo} {x : Path} (h : RR fs0 fs u) (hx : x ∉ keys u)
    (hord : fs.file x ≠ none → ∀ q, q ∈ keys u → x <+: q → q ≠ x → False) :
    RR fs0 fs (u ++ [(x, fs.file x)]) := by
  refine ⟨?_, ?_, h.dirs, pairwise_snoc.mpr ⟨h.ord, ?_⟩⟩
  · intro q hq
    exact h.same q (not_mem_keys_snoc.mp hq).1
  · intro p v hpv
    rw [List.mem_append] at hpv
    rcases hpv with h1 | h1
    · exact h.val p v h1
    · cases List.mem_singleton.mp h1
      exact h.same _ hx
  · intro e he h1 h2 h3
    exact hord h1 e.1 (List.mem_map_of_mem he) h2 h3

/-! ### the successful operations -/

theorem Inv_init {fs : FS} (hwf : WF fs) : Inv fs fs [] :=
  ⟨⟨fun _ _ => rfl, fun _ _ h => absurd h List.not_mem_nil, fun _ h => h, .nil⟩, hwf,
    fun _ h => absurd h List.not_mem_nil⟩

theorem Inv_record {fs0 fs : FS} {u u' : Undo} {x : Path} (h : Inv fs0 fs u)
    (habove : ∀ p, p <+: x → p ≠ x → fs.file p = none)
    (hr : recordUndo fs u x = some u') : Inv fs0 fs u' := by
  rcases recordUndo_some hr with ⟨_, rfl⟩ | ⟨hx, rfl⟩
  · exact h
  · refine ⟨RR_append h.toRR hx ?_, h.wf, ?_⟩
    · intro hf q hq h2 h3
      apply hf
      rw [h.same x hx]
      exact h.anc q hq x h2 (Ne.symm h3) hx
    · intro y hy p h1 h2 hp
      have hpu : p ∉ keys u := (not_mem_keys_snoc.mp hp).1
      rw [keys_snoc, List.mem_append, List.mem_singleton] at hy
      rcases hy with hy | rfl
      · exact h.anc y hy p h1 h2 hpu
      · rw [← h.same p hpu]
        exact habove p h1 h2

theorem Inv_createDirAll {fs0 fs fs' : FS} {u : Undo} {p : Path} (h : Inv fs0 fs u)
    (hc : fs.createDirAll p = some fs') : Inv fs0 fs' u := by
  obtain ⟨_, hfile, hdir⟩ := createDirAll_some hc
  refine ⟨⟨?_, h.val, ?_, h.ord⟩, WF_createDirAll h.wf hc, h.anc⟩
  · intro q hq
    rw [hfile]
    exact h.same q hq
  · intro q hq
    exact (hdir q).mpr (Or.inl (h.dirs q hq))

theorem Inv_setFile {fs0 fs : FS} {u : Undo} {x : Path} (v : Option Bytes) (h : Inv fs0 fs u)
    (hx : x ∈ keys u) (hv : v ≠ none → fs.dir x = false ∧ fs.dir x.dropLast = true) :
    Inv fs0 (fs.setFile x v) u := by
  refine ⟨⟨?_, h.val, h.dirs, h.ord⟩, WF_setFile v h.wf hv, h.anc⟩
  intro q hq
  have : q ≠ x := fun he => hq (he ▸ hx)
  rw [setFile_file, if_neg this]
  exact h.same q hq

theorem Inv_write {fs0 fs fs' : FS} {u : Undo} {x : Path} {b : Bytes} (h : Inv fs0 fs u)
    (hx : x ∈ keys u) (hw : fs.write x b = some fs') : Inv fs0 fs' u := by
  obtain ⟨_, h2, h3, rfl⟩ := write_some hw
  exact Inv_setFile _ h hx fun _ => ⟨h2, h3⟩

theorem Inv_rename {fs0 fs fs' : FS} {u : Undo} {a b : Path} (h : Inv fs0 fs u)
    (ha : a ∈ keys u) (hb : b ∈ keys u) (hr : fs.rename a b = some fs') : Inv fs0 fs' u := by
  obtain ⟨bytes, _, _, h2, h3, rfl⟩ := rename_some hr
  exact Inv_setFile _ (Inv_setFile none h ha nofun) hb fun _ => ⟨h2, h3⟩

theorem no_file_above_of_exists {fs : FS} (hwf : WF fs) {x : Path} (hx : fs.exists x = true) :
    ∀ p, p <+: x → p ≠ x → fs.file p = none := by
  intro p h1 h2
  apply Classical.byContradiction
  intro hp
  obtain ⟨hf, hd⟩ := hwf.below_file hp h1
  rw [FS.exists, hf (Ne.symm h2), hd] at hx
  cases hx

theorem no_file_above_of_createDirAll {fs fs' : FS} {x : Path}
    (hc : fs.createDirAll x.dropLast = some fs') : ∀ p, p <+: x → p ≠ x → fs.file p = none :=
  fun p h1 h2 => (createDirAll_some hc).1 p (strict_prefix_dropLast h1 h2)

def Invs (fs0 : FS) (s : St) : Prop := Inv fs0 s.fs s.undo
def RRs (fs0 : FS) (s : St) : Prop := RR fs0 s.fs s.undo

theorem Invs_of_OpOk {fs0 : FS} {s s' : St} {op : Op} (h : Invs fs0 s) (hop : OpOk s op s') :
    Invs fs0 s' := by
  induction hop with
  | add _ _ hr hc hw =>
    have h1 := Inv_record h (no_file_above_of_createDirAll hc) hr
    exact Inv_write (Inv_createDirAll h1 hc) (recordUndo_mem hr).1 hw
  | delete _ he hr hrm =>
    obtain ⟨_, rfl⟩ := removeFile_some hrm
    have h1 := Inv_record h (no_file_above_of_exists h.wf he) hr
    exact Inv_setFile none h1 (recordUndo_mem hr).1 nofun
  | update _ he hr _ _ _ hw =>
    have h1 := Inv_record h (no_file_above_of_exists h.wf he) hr
    exact Inv_write h1 (recordUndo_mem hr).1 hw
  | @move p _ _ s1 _ _ _ hup _ _ hr2 hc hrn ih =>
    have hp : p.comps ∈ keys s1.undo := by
      cases hup with
      | update _ _ hr => exact (recordUndo_mem hr).1
    have h3 := Inv_record ih (no_file_above_of_createDirAll hc) hr2
    have hk2 := recordUndo_mem hr2
    exact Inv_rename (Inv_createDirAll h3 hc) (hk2.2 _ hp) hk2.1 hrn

/-! ### the failing operation

`Inv` does not survive a failing operation: `add a/b` below a file `a` records `a/b`, not `a`,
before `create_dir_all` fails. The new entry recorded no file, so the ordering is not at stake; but
nothing that holds of this state is kept by further operations (after `delete a`, `add a/b` the
revert would leave a directory `a`): the failing operation has to be the last. -/

theorem RR_record_absent {fs0 fs : FS} {u u' : Undo} {x : Path} (h : RR fs0 fs u)
    (he : fs.exists x = false) (hr : recordUndo fs u x = some u') : RR fs0 fs u' := by
  rcases recordUndo_some hr with ⟨_, rfl⟩ | ⟨hx, rfl⟩
  · exact h
  · exact RR_append h hx fun hf => absurd (exists_eq_false.mp he).1 hf

theorem RRs_partial_add {fs0 : FS} (s : St) (p : RPath) (c : Bytes) (h : Invs fs0 s) :
    RRs fs0 (applyOpPartial s (.add p c)) := by
  rw [applyOpPartial]
  cases p.mustDir with
  | true =>
    cases s.fs.dir p.comps with
    | true => exact h.toRR
    | false =>
    cases hc : s.fs.createDirAll p.comps.dropLast with
    | none => exact h.toRR
    | some fs1 => exact (Inv_createDirAll h hc).toRR
  | false =>
  cases he : s.fs.exists p.comps with
  | true => exact h.toRR
  | false =>
  cases hr : recordUndo s.fs s.undo p.comps with
  | none => exact h.toRR
  | some undo =>
  cases hc : s.fs.createDirAll p.comps.dropLast with
  | none => exact RR_record_absent h.toRR he hr
  | some fs1 =>
    exact (Inv_createDirAll (Inv_record h (no_file_above_of_createDirAll hc) hr) hc).toRR

theorem RRs_partial {fs0 : FS} (s : St) (op : Op) (h : Invs fs0 s) :
    RRs fs0 (applyOpPartial s op) := by
  cases op with
  | add p c => exact RRs_partial_add s p c h
  | delete p =>
    rw [applyOpPartial]
    cases p.mustDir with
    | true => exact h.toRR
    | false =>
    cases he : s.fs.exists p.comps with
    | false => exact h.toRR
    | true =>
    cases hr : recordUndo s.fs s.undo p.comps with
    | none => exact h.toRR
    | some undo => exact (Inv_record h (no_file_above_of_exists h.wf he) hr).toRR
  | update p m hunks =>
    rw [applyOpPartial]
    cases p.mustDir with
    | true => exact h.toRR
    | false =>
    cases he : s.fs.exists p.comps with
    | false => exact h.toRR
    | true =>
    cases hr : recordUndo s.fs s.undo p.comps with
    | none => exact h.toRR
    | some undo =>
    have h1 : Inv fs0 s.fs undo := Inv_record h (no_file_above_of_exists h.wf he) hr
    cases s.fs.file p.comps with
    | none => exact h1.toRR
    | some bytes =>
    dsimp only
    cases Rip.Utf8.isValid bytes with
    | false => exact h1.toRR
    | true =>
    cases applyHunks bytes hunks with
    | none => exact h1.toRR
    | some updated =>
    dsimp only
    cases hw : s.fs.write p.comps updated with
    | none => exact h1.toRR
    | some fs1 =>
    have h2 : Inv fs0 fs1 undo := Inv_write h1 (recordUndo_mem hr).1 hw
    cases m with
    | none => exact h2.toRR
    -- a failed move leaves what a failed `add` of the target would leave; unfolded in `this` first:
    -- `exact` against the goal makes the unifier redo the walk
    | some t =>
      have := RRs_partial_add { s with fs := fs1, undo := undo } t [] h2
      dsimp only [applyOpPartial] at this
      exact this

theorem applyOps_error {fs0 : FS} (ops : List Op) (s : St) (hs : Invs fs0 s) (e : Err) (s' : St)
    (h : applyOps s ops = .error (e, s')) : RRs fs0 s' := by
  fun_induction applyOps s ops
  next => cases h
  next s op ops s1 hop ih => exact ih (Invs_of_OpOk hs (OpOk_of_applyOp hop)) h
  next s op ops e1 hop =>
    cases h
    exact RRs_partial s op hs

/-! ### the revert phase -/

/-- what `revertEntry` does first for a recorded file: clear the directories that took its place -/
def preClear (fb : FS → Path → Bool) (fs : FS) (p : Path) : FS :=
  if fs.dir p then fs.clearDirs p (fb fs p) else fs

theorem preClear_facts (fb : FS → Path → Bool) (fs : FS) (p : Path)
    (h : fs.dir p = true → fb fs p = false) :
    (∀ q, (preClear fb fs p).file q = fs.file q) ∧ (preClear fb fs p).dir p = false ∧
    (∀ q, fs.dir q = true → ¬ p <+: q → (preClear fb fs p).dir q = true) := by
  -- given by name: instance search tries five order-based `LawfulBEq UInt8` instances first, each time
  have : LawfulBEq UInt8 := instLawfulBEq
  have hpre : ∀ q, p.isPrefixOf q = true ↔ p <+: q := fun _ => List.isPrefixOf_iff_prefix
  unfold preClear
  cases hd : fs.dir p with
  | false => exact ⟨fun _ => rfl, hd, fun q hq _ => hq⟩
  | true =>
    rw [if_pos rfl, h hd]
    refine ⟨fun _ => rfl, ?_, ?_⟩
    · show (fs.dir p && !p.isPrefixOf p) = false
      rw [(hpre p).mpr (List.prefix_refl p)]
      exact Bool.and_false _
    · intro q hq hnp
      show (fs.dir q && !p.isPrefixOf q) = true
      rw [hq, Bool.eq_false_iff.mpr (mt (hpre q).mp hnp)]
      rfl

theorem revertEntry_none (fb : FS → Path → Bool) (fs : FS) (p : Path) :
    revertEntry fb fs (p, none) = fs.restore p none := by rfl

theorem revertEntry_some (fb : FS → Path → Bool) (fs : FS) (p : Path) (b : Bytes) :
    revertEntry fb fs (p, some b) = (preClear fb fs p).restore p (some b) := by rfl

theorem revertEntry_none_file (fb : FS → Path → Bool) (fs : FS) (p q : Path) :
    (revertEntry fb fs (p, none)).file q = if q = p then none else fs.file q := by
  rw [revertEntry_none]
  by_cases hq : q = p
  · rw [if_pos hq, hq]
    exact restore_none_file fs p
  · rw [if_neg hq]
    exact (restore_touches fs p none).file q hq

theorem revertEntry_none_dir (fb : FS → Path → Bool) (fs : FS) (p : Path) :
    (revertEntry fb fs (p, none)).dir = fs.dir := by
  rw [revertEntry_none, FS.restore]
  cases h : fs.removeFile p with
  | none => rfl
  | some f =>
    obtain ⟨_, rfl⟩ := removeFile_some h
    rfl

theorem revertEntry_some_facts (fb : FS → Path → Bool) (fs : FS) (p : Path) (b : Bytes)
    (h1 : p ≠ []) (h3 : fs.dir p.dropLast = true) (h2 : fs.dir p = true → fb fs p = false) :
    (∀ q, (revertEntry fb fs (p, some b)).file q = if q = p then some b else fs.file q) ∧
    (∀ q, fs.dir q = true → ¬ p <+: q → (revertEntry fb fs (p, some b)).dir q = true) := by
  obtain ⟨a1, a2, a3⟩ := preClear_facts fb fs p h2
  have ht := restore_touches (preClear fb fs p) p (some b)
  rw [revertEntry_some]
  refine ⟨fun q => ?_, fun q hq hnp => ht.mono q (a3 q hq hnp)⟩
  by_cases hq : q = p
  · rw [if_pos hq, hq]
    exact restore_some_file _ b h1 a2 (a3 _ h3 (not_prefix_dropLast h1))
  · rw [if_neg hq]
    exact (ht.file q hq).trans (a1 q)

theorem RR_step {fb : FS → Path → Bool} (hfb : FileBelowSpec fb) {fs0 fs : FS} (hwf0 : WF fs0)
    {l : Undo} {e : Path × Option Bytes} (h : RR fs0 fs (l ++ [e])) :
    RR fs0 (revertEntry fb fs e) l := by
  obtain ⟨p, v⟩ := e
  obtain ⟨hordl, hlast⟩ := pairwise_snoc.mp h.ord
  have hval : v = fs0.file p := h.val p v (by simp)
  have hsame : ∀ q, q ∉ keys l → q ≠ p → fs.file q = fs0.file q :=
    fun q hq hqp => h.same q (not_mem_keys_snoc.mpr ⟨hq, hqp⟩)
  -- what `RR` for the shorter list needs of the state `fs1` after the step
  have hstep : ∀ fs1 : FS, (∀ q, fs1.file q = if q = p then v else fs.file q) →
      (∀ q, fs0.dir q = true → fs1.dir q = true) → RR fs0 fs1 l := by
    intro fs1 hfile hdirs
    refine ⟨?_, fun p v hpv => h.val p v (List.mem_append_left _ hpv), hdirs, hordl⟩
    intro q hq
    rw [hfile]
    by_cases hqp : q = p
    · rw [if_pos hqp, hqp]
      exact hval
    · rw [if_neg hqp]
      exact hsame q hq hqp
  cases v with
  | none =>
    refine hstep _ (revertEntry_none_file fb fs p) fun q hq => ?_
    rw [revertEntry_none_dir]
    exact h.dirs q hq
  | some b =>
    have hf0 : fs0.file p ≠ none := fun h0 => Option.some_ne_none b (hval.trans h0)
    obtain ⟨hp, habove⟩ := hwf0.above_file hf0
    have hpar := h.dirs _ (habove _ (List.prefix_refl _))
    -- if `p` has become a directory, no file is left below it: such a file would be new, so its
    -- path is a key of `l`, which the ordering rules out
    have hfbf : fs.dir p = true → fb fs p = false := by
      intro _
      apply Bool.eq_false_iff.mpr
      intro hb
      obtain ⟨q, hpq, hqp, hq⟩ := (hfb fs p).mp hb
      rcases Classical.em (q ∈ keys l) with hql | hql
      · obtain ⟨e, he, rfl⟩ := List.mem_map.mp hql
        exact hlast e he (by simp) hpq hqp
      · apply hq
        rw [hsame q hql hqp]
        exact (hwf0.below_file hf0 hpq).1 hqp
    obtain ⟨hfile, hdir⟩ := revertEntry_some_facts fb fs p b hp hpar hfbf
    refine hstep _ hfile fun q hq => ?_
    -- `p` is a file in `fs0`, so no directory of `fs0` is at or below it
    exact hdir q (h.dirs q hq) fun hpq =>
      Bool.false_ne_true ((hwf0.below_file hf0 hpq).2.symm.trans hq)

theorem revert_snoc (fb : FS → Path → Bool) (fs : FS) (u : Undo) (e : Path × Option Bytes) :
    revert fb fs (u ++ [e]) = revert fb (revertEntry fb fs e) u := by
  rw [revert, List.reverse_append]
  rfl

theorem revert_RR {fb : FS → Path → Bool} (hfb : FileBelowSpec fb) {fs0 fs : FS} (hwf0 : WF fs0)
    {u : Undo} (h : RR fs0 fs u) : RR fs0 (revert fb fs u) [] := by
  induction u using snoc_induction generalizing fs with
  | nil => exact h
  | snoc l e ih =>
    rw [revert_snoc]
    exact ih (RR_step hfb hwf0 h)

/-- All-or-nothing: when `applyPatchOps` reports an error, every file has its initial content. -/
theorem atomic (fb : FS → Path → Bool) (hfb : FileBelowSpec fb) (fs : FS) (hwf : WF fs)
    (ops : List Op) (e : Err) (fs' : FS)
    (h : applyPatchOps fb fs ops = (.error e, fs')) : ∀ q, fs'.file q = fs.file q := by
  obtain ⟨s, hops, rfl⟩ := applyPatchOps_error h
  have hinit : Invs fs { fs := fs, undo := [], changed := [] } := Inv_init hwf
  exact fun q => (revert_RR hfb hwf (applyOps_error ops _ hinit e s hops)).same q List.not_mem_nil

end Rip.Patch
