import Rip.Model.Cache
/-!
C04: the tail-scanning read paths over a per-thread cache file. Every fact about a status loop is a
`fun_induction` along the loop; its cases, in the order of the model text: 1 out of fuel, 2 the entry test
fails, 3 the tail is rejected, 4 the scan is complete (cursor: or has enough keys), 5 the loop leaves at
the largest window, 6 it goes on to the next window. `Faithful` is all the loops need of a cache.
-/
namespace Rip.Cache

/-- the shape of the current code: `Props.C04.gen_loops_current` proves the regenerated `genShape` equal to
it, and the property theorems rewrite to it; the same record as the model's `repaired` -/
def current : Shape := { exitAtMax := true, resetAcc := true, headCheck := true, fallback := true }

/-! ### termination -/

theorem selectionLoop_zero (sh : Shape) (cs : List F) (limit w max : Nat) (acc : List Nat) :
    selectionLoop sh cs limit w max acc 0 = none := rfl

theorem selectionLoop_succ (sh : Shape) (cs : List F) (limit w max : Nat) (acc : List Nat) (fuel : Nat) :
    selectionLoop sh cs limit w max acc (fuel + 1) =
      if !(decide (w ≤ max) && decide (acc.length < limit)) then some (acc, true, false)
      else
        match completeOf sh (tailOf cs w) with
        | none => some (acc, false, false)
        | some complete =>
          if complete then
            some ((if sh.resetAcc then [] else acc) ++
              (decisionSeqs (tailOf cs w).events).take (limit - (if sh.resetAcc then [] else acc).length), true, true)
          else if sh.exitAtMax && decide (w ≥ max) then
            some ((if sh.resetAcc then [] else acc) ++
              (decisionSeqs (tailOf cs w).events).take (limit - (if sh.resetAcc then [] else acc).length), true, false)
          else selectionLoop sh cs limit (min (2 * w) max) max
            ((if sh.resetAcc then [] else acc) ++
              (decisionSeqs (tailOf cs w).events).take (limit - (if sh.resetAcc then [] else acc).length)) fuel := rfl

theorem cursorLoop_zero (sh : Shape) (cs : List F) (w max : Nat) : cursorLoop sh cs w max 0 = none := rfl

theorem cursorLoop_succ (sh : Shape) (cs : List F) (w max : Nat) (fuel : Nat) :
    cursorLoop sh cs w max (fuel + 1) =
      if !(decide (w ≤ max)) then some none
      else
        match completeOf sh (tailOf cs w) with
        | none => some none
        | some complete =>
          if complete || decide ((cursorTruth (tailOf cs w).events).cursors.length ≥ maxKeys) then
            some (some (cursorTruth (tailOf cs w).events, true))
          else if sh.exitAtMax && decide (w ≥ max) then some (some (cursorTruth (tailOf cs w).events, false))
          else cursorLoop sh cs (min (2 * w) max) max fuel := rfl

/-- below the maximum a positive window grows strictly, so `max - w + 1` windows suffice -/
theorem window_grows {w max fuel : Nat} (hw : 0 < w) (hlt : w < max) (hfuel : max - w + 1 ≤ fuel + 1) :
    0 < min (2 * w) max ∧ max - min (2 * w) max + 1 ≤ fuel :=
  have hm : w < min (2 * w) max := Nat.lt_min.2 ⟨by omega, hlt⟩
  ⟨Nat.lt_trans hw hm, Nat.lt_of_lt_of_le (Nat.sub_lt_sub_left hlt hm) (Nat.le_of_succ_le_succ hfuel)⟩

theorem selectionLoop_terminates {sh : Shape} (he : sh.exitAtMax = true) (cs : List F) (limit max : Nat) :
    ∀ (fuel w : Nat) (acc : List Nat), 0 < w → max - w + 1 ≤ fuel →
      (selectionLoop sh cs limit w max acc fuel).isSome = true := by
  intro fuel w acc hw hfuel
  fun_induction selectionLoop sh cs limit w max acc fuel
  case case1 => cases hfuel
  case case6 hgo ih =>
    simp [he] at hgo
    obtain ⟨hw', hfuel'⟩ := window_grows hw hgo hfuel
    exact ih hw' hfuel'
  all_goals rfl

theorem cursorLoop_terminates {sh : Shape} (he : sh.exitAtMax = true) (cs : List F) (max : Nat) :
    ∀ (fuel w : Nat), 0 < w → max - w + 1 ≤ fuel → (cursorLoop sh cs w max fuel).isSome = true := by
  intro fuel w hw hfuel
  fun_induction cursorLoop sh cs w max fuel
  case case1 => cases hfuel
  case case6 hgo ih =>
    simp [he] at hgo
    obtain ⟨hw', hfuel'⟩ := window_grows hw hgo hfuel
    exact ih hw' hfuel'
  all_goals rfl

/-! ### tails -/

theorem newestFirst_append {α : Type} (g : F → Option α) (a b : List F) :
    (a ++ b).reverse.filterMap g = b.reverse.filterMap g ++ a.reverse.filterMap g := by
  rw [List.reverse_append, List.filterMap_append]

theorem decisionSeqs_append (a b : List F) : decisionSeqs (a ++ b) = decisionSeqs b ++ decisionSeqs a :=
  newestFirst_append _ a b

theorem cursorRows_append (a b : List F) : cursorRows (a ++ b) = cursorRows b ++ cursorRows a :=
  newestFirst_append _ a b

theorem decisionSeqs_prefix {t fs : List F} (hs : SuffixOf t fs) :
    ∃ older, decisionSeqs fs = decisionSeqs t ++ older := by
  obtain ⟨pre, rfl⟩ := hs
  exact ⟨_, decisionSeqs_append pre t⟩

theorem cursorRows_prefix {t fs : List F} (hs : SuffixOf t fs) :
    ∃ older, cursorRows fs = cursorRows t ++ older := by
  obtain ⟨pre, rfl⟩ := hs
  exact ⟨_, cursorRows_append pre t⟩

theorem firstPerKey_nil (cap : Nat) (acc : List (Nat × Nat)) : firstPerKey cap acc [] = acc := rfl

theorem firstPerKey_full {cap : Nat} {acc : List (Nat × Nat)} (h : acc.length ≥ cap) :
    ∀ rs, firstPerKey cap acc rs = acc
  | [] => rfl
  | _ :: _ => if_pos h

theorem firstPerKey_append (cap : Nat) (acc p q : List (Nat × Nat)) :
    firstPerKey cap acc (p ++ q) = firstPerKey cap (firstPerKey cap acc p) q := by
  -- no row left, `cap` keys known, a key seen before, a new key
  fun_induction firstPerKey cap acc p
  case case1 => rfl
  case case2 h => rw [firstPerKey_full h, firstPerKey_full h]
  case case3 h ha ih => rw [List.cons_append, firstPerKey, if_neg h, if_pos ha, ih]
  case case4 h ha ih => rw [List.cons_append, firstPerKey, if_neg h, if_neg ha, ih]

theorem cursorTruth_of_full_suffix {t fs : List F} (hs : SuffixOf t fs)
    (hfull : (cursorTruth t).cursors.length ≥ maxKeys) : cursorTruth t = cursorTruth fs := by
  obtain ⟨older, ho⟩ := cursorRows_prefix hs
  have hcur : firstPerKey maxKeys [] (cursorRows t ++ older) = firstPerKey maxKeys [] (cursorRows t) :=
    (firstPerKey_append ..).trans (firstPerKey_full hfull older)
  have hact : (cursorRows t ++ older).head? = (cursorRows t).head? := by
    cases hrows : cursorRows t with
    | nil =>
      exfalso
      simp [cursorTruth, hrows, firstPerKey, maxKeys] at hfull
    | cons r rs => rfl
  simp only [cursorTruth, ho, hcur, hact]

theorem tailOf_events_suffix (cs : List F) (w : Nat) :
    cs = cs.take (cs.length - w) ++ (tailOf cs w).events :=
  (List.take_append_drop ..).symm

theorem tailOf_suffixOf {cs fs : List F} (hs : SuffixOf cs fs) (w : Nat) : SuffixOf (tailOf cs w).events fs := by
  obtain ⟨pre, rfl⟩ := hs
  exact ⟨pre ++ cs.take (cs.length - w), by rw [List.append_assoc, ← tailOf_events_suffix]⟩

theorem tailOf_events_of_reached {cs : List F} {w : Nat} (h : (tailOf cs w).reachedStart = true) :
    (tailOf cs w).events = cs :=
  congrArg (cs.drop ·) (Nat.sub_eq_zero_of_le (of_decide_eq_true h))

/-! ### a cache the loops can trust -/

def headBad (t : Tail) : Bool :=
  match t.events.head? with | some f => f.seq != 0 | none => false

theorem completeOf_eq (sh : Shape) (t : Tail) :
    completeOf sh t = if (t.reachedStart && sh.headCheck && headBad t) then none else some t.reachedStart := rfl

theorem completeOf_some_true {sh : Shape} {t : Tail} (h : completeOf sh t = some true) :
    t.reachedStart = true ∧ (sh.headCheck = true → headBad t = false) := by
  rw [completeOf_eq] at h
  obtain ⟨hc, hr⟩ := Option.ite_none_left_eq_some.mp h
  obtain hr := Option.some.inj hr
  refine ⟨hr, fun hh => ?_⟩
  rw [hr, hh] at hc
  exact Bool.eq_false_iff.mpr hc

/-- the cache file holds a suffix of the thread, and a tail the loop accepts as complete is the
whole thread -/
structure Faithful (sh : Shape) (cs fs : List F) : Prop where
  suffix : SuffixOf cs fs
  complete : ∀ w, completeOf sh (tailOf cs w) = some true → (tailOf cs w).events = fs

theorem faithful_self (sh : Shape) (fs : List F) : Faithful sh fs fs :=
  ⟨⟨[], rfl⟩, fun _ h => tailOf_events_of_reached (completeOf_some_true h).1⟩

theorem valid_seq_at {fs pre rest : List F} {c : F} (hv : Valid fs) (h : fs = pre ++ c :: rest) :
    c.seq = pre.length := by
  subst h
  have := hv pre.length (by simp)
  simpa using this

/-- a tail that reached the start of the file and starts at seq 0 is the thread, so with the head check a
suffix-only file is rejected or harmless. `hne` is needed of the model: an empty file scans as an empty,
complete tail, which `completeOf` lets pass (see `Rip.Cex.C04`). `scan_tail` itself compares the first seq
with `Some(0)`, so it rejects the empty file too, and an absent file is "no cache". -/
theorem faithful_suffix {sh : Shape} (hh : sh.headCheck = true) {fs cs : List F} (hv : Valid fs)
    (hs : SuffixOf cs fs) (hne : cs = [] → fs = []) : Faithful sh cs fs := by
  refine ⟨hs, fun w h => ?_⟩
  obtain ⟨hr, hb⟩ := completeOf_some_true h
  have hev := tailOf_events_of_reached hr
  rw [hev]
  obtain ⟨pre, hfs⟩ := hs
  cases cs with
  | nil => exact (hne rfl).symm
  | cons c rest =>
    have h0 : c.seq = 0 := by simpa [headBad, hev] using hb hh
    obtain rfl := List.eq_nil_of_length_eq_zero ((valid_seq_at hv hfs).symm.trans h0)
    exact hfs.symm

theorem completeOf_not_rejected (sh : Shape) (fs : List F) (hh : sh.headCheck = false ∨ Valid fs) (w : Nat) :
    completeOf sh (tailOf fs w) = some (tailOf fs w).reachedStart := by
  rw [completeOf_eq]
  refine if_neg fun hc => ?_
  rw [Bool.and_eq_true, Bool.and_eq_true] at hc
  obtain ⟨⟨hr, hh'⟩, hb⟩ := hc
  rcases hh with h | hv
  · rw [h] at hh'
    cases hh'
  · -- a valid thread read to its start begins at seq 0
    rw [headBad, tailOf_events_of_reached hr] at hb
    cases fs with
    | nil => cases hb
    | cons f rest => exact bne_iff_ne.mp hb (valid_seq_at (pre := []) hv rfl)

/-! ### the fast paths give the truth answer -/

/-- what `selectionFast` makes of a finished loop -/
def selectionPost (fs : List F) (limit : Nat) : List Nat × Bool × Bool → Option (List Nat)
  | (acc, scanned, complete) =>
    if !scanned || (!complete && acc.length < limit) then some (selectionTruth fs limit) else some acc

theorem selectionFast_eq (sh : Shape) (fs cs : List F) (limit w0 max fuel : Nat) :
    selectionFast sh fs cs limit w0 max fuel =
      (selectionLoop sh cs limit w0 max [] fuel).bind (selectionPost fs limit) := by
  unfold selectionFast
  cases selectionLoop sh cs limit w0 max [] fuel <;> rfl

/-- loop invariant: an accumulator that is full is the truth answer -/
def SelInv (fs : List F) (limit : Nat) (acc : List Nat) : Prop :=
  acc.length < limit ∨ acc = selectionTruth fs limit

theorem selInv_nil (fs : List F) (limit : Nat) : SelInv fs limit [] := by
  cases limit with
  | zero => exact .inr rfl
  | succ n => exact .inl (Nat.succ_pos n)

theorem selInv_of_suffix {t fs : List F} (hs : SuffixOf t fs) (limit : Nat) :
    SelInv fs limit ((decisionSeqs t).take limit) := by
  obtain ⟨older, ho⟩ := decisionSeqs_prefix hs
  by_cases h : limit ≤ (decisionSeqs t).length
  · right; rw [selectionTruth, ho, List.take_append_of_le_length h]
  · exact .inl (Nat.lt_of_le_of_lt (List.length_take_le' ..) (Nat.lt_of_not_le h))

theorem selectionPost_incomplete {fs : List F} {limit : Nat} {a : List Nat} (s : Bool)
    (hinv : SelInv fs limit a) : selectionPost fs limit (a, s, false) = some (selectionTruth fs limit) := by
  rcases hinv with h | rfl
  · simp [selectionPost, h]
  · simp [selectionPost]

theorem selectionLoop_sound {sh : Shape} (hr : sh.resetAcc = true) {fs cs : List F} (h : Faithful sh cs fs)
    (limit max : Nat) {r : List Nat × Bool × Bool} :
    ∀ (fuel w : Nat) (acc : List Nat), SelInv fs limit acc →
      selectionLoop sh cs limit w max acc fuel = some r →
      selectionPost fs limit r = some (selectionTruth fs limit) := by
  intro fuel w acc hinv hl
  have hnew (w : Nat) : SelInv fs limit ((decisionSeqs (tailOf cs w).events).take limit) :=
    selInv_of_suffix (tailOf_suffixOf h.suffix w) limit
  -- with `resetAcc` the literal `true` the accumulator after window `w` computes to the list in `hnew`
  obtain ⟨_, _, _, _⟩ := sh
  subst hr
  fun_induction selectionLoop _ cs limit w max acc fuel
  case case1 => cases hl
  case case2 =>
    cases hl
    exact selectionPost_incomplete _ hinv
  case case3 =>
    cases hl
    rfl
  case case4 hc =>
    cases hl
    exact congrArg (fun t => some ((decisionSeqs t).take limit)) (h.complete _ hc)
  case case5 =>
    cases hl
    exact selectionPost_incomplete _ (hnew _)
  case case6 ih => exact ih (hnew _) hl

/-- what `cursorFast` makes of a finished loop -/
def cursorPost (sh : Shape) (fs : List F) : Option (CursorAnswer × Bool) → Option CursorAnswer
  | none => some (cursorTruth fs)
  | some (ans, enough) => if !enough && sh.fallback then some (cursorTruth fs) else some ans

theorem cursorFast_eq (sh : Shape) (fs cs : List F) (w0 max fuel : Nat) :
    cursorFast sh fs cs w0 max fuel = (cursorLoop sh cs w0 max fuel).bind (cursorPost sh fs) := by
  unfold cursorFast
  rcases cursorLoop sh cs w0 max fuel with _ | _ | _ <;> rfl

theorem cursorLoop_sound {sh : Shape} (hf : sh.fallback = true) {fs cs : List F} (h : Faithful sh cs fs)
    (max : Nat) {r : Option (CursorAnswer × Bool)} :
    ∀ (fuel w : Nat), cursorLoop sh cs w max fuel = some r → cursorPost sh fs r = some (cursorTruth fs) := by
  intro fuel w hl
  fun_induction cursorLoop sh cs w max fuel
  case case1 => cases hl
  case case2 =>
    cases hl
    rfl
  case case3 =>
    cases hl
    rfl
  case case4 complete hc _ hor =>
    cases hl
    show some (cursorTruth (tailOf cs _).events) = some (cursorTruth fs)
    cases complete with
    | true => rw [h.complete _ hc]
    | false => rw [cursorTruth_of_full_suffix (tailOf_suffixOf h.suffix _) (by simpa using hor)]
  case case5 =>
    cases hl
    simp [cursorPost, hf]
  case case6 ih => exact ih hl

theorem selectionFast_sound {sh : Shape} (he : sh.exitAtMax = true) (hr : sh.resetAcc = true)
    {fs cs : List F} (h : Faithful sh cs fs) (limit : Nat) {w0 max fuel : Nat} (hw : 0 < w0)
    (hfuel : max - w0 + 1 ≤ fuel) :
    selectionFast sh fs cs limit w0 max fuel = some (selectionTruth fs limit) := by
  obtain ⟨r, hl⟩ := Option.isSome_iff_exists.1 (selectionLoop_terminates he cs limit max fuel w0 [] hw hfuel)
  rw [selectionFast_eq, hl]
  exact selectionLoop_sound hr h limit max fuel w0 [] (selInv_nil fs limit) hl

theorem cursorFast_sound {sh : Shape} (he : sh.exitAtMax = true) (hf : sh.fallback = true)
    {fs cs : List F} (h : Faithful sh cs fs) {w0 max fuel : Nat} (hw : 0 < w0)
    (hfuel : max - w0 + 1 ≤ fuel) :
    cursorFast sh fs cs w0 max fuel = some (cursorTruth fs) := by
  obtain ⟨r, hl⟩ := Option.isSome_iff_exists.1 (cursorLoop_terminates he cs max fuel w0 hw hfuel)
  rw [cursorFast_eq, hl]
  exact cursorLoop_sound hf h max fuel w0 hl

/-! ### transparency (`cs = fs`) -/

/-- `_hh` is not needed: with `cs = fs` an accepted complete tail is the thread itself (`faithful_self`,
any shape), and a rejected scan only sends the query to the truth log -/
theorem selection_transparent (sh : Shape) (he : sh.exitAtMax = true) (hr : sh.resetAcc = true)
    (fs : List F) (_hh : sh.headCheck = false ∨ Valid fs) (limit w0 max : Nat) (hw : 0 < w0) :
    ∃ fuel, selectionFast sh fs fs limit w0 max fuel = some (selectionTruth fs limit) :=
  ⟨max - w0 + 1, selectionFast_sound he hr (faithful_self sh fs) limit hw (Nat.le_refl _)⟩

theorem cursor_transparent (sh : Shape) (he : sh.exitAtMax = true) (hf : sh.fallback = true)
    (fs : List F) (_hh : sh.headCheck = false ∨ Valid fs) (w0 max : Nat) (hw : 0 < w0) :
    ∃ fuel, cursorFast sh fs fs w0 max fuel = some (cursorTruth fs) :=
  ⟨max - w0 + 1, cursorFast_sound he hf (faithful_self sh fs) hw (Nat.le_refl _)⟩

/-- where `headCheck = false ∨ Valid fs` does matter: the loop never leaves by the rejection exit
(`r.2.1` is `scanned`), so the truth log is consulted only for an incomplete, short scan -/
theorem selection_not_rejected (sh : Shape) (fs : List F) (hh : sh.headCheck = false ∨ Valid fs)
    (limit max : Nat) :
    ∀ (fuel w : Nat) (acc : List Nat) (r : List Nat × Bool × Bool),
      selectionLoop sh fs limit w max acc fuel = some r → r.2.1 = true := by
  intro fuel w acc r h
  fun_induction selectionLoop sh fs limit w max acc fuel
  case case1 => cases h
  case case3 hc =>
    rw [completeOf_not_rejected sh fs hh] at hc
    cases hc
  case case6 ih => exact ih h
  -- every other way out has scanned the tail
  all_goals
    cases h
    rfl

theorem cursor_not_rejected (sh : Shape) (fs : List F) (hh : sh.headCheck = false ∨ Valid fs) (max : Nat) :
    ∀ (fuel w : Nat) (r : Option (CursorAnswer × Bool)), w ≤ max →
      cursorLoop sh fs w max fuel = some r → r.isSome = true := by
  intro fuel w r hle h
  fun_induction cursorLoop sh fs w max fuel
  case case1 => cases h
  case case2 hn => simp [hle] at hn
  case case3 hc =>
    rw [completeOf_not_rejected sh fs hh] at hc
    cases hc
  case case6 ih => exact ih (Nat.min_le_right _ _) h
  all_goals
    cases h
    rfl

end Rip.Cache
