import Rip.Model.RunLife
/-!
C07. Between its fixed opening and closing frames a run (`Rip.RunLife.trace`) writes an optional
selection pair, `Inner` frames and an optional cursor frame, so the shape of `body` is described once
(`body_shape`) and the thread and session views are read off it; the acceptor `lifecycleOk` decides exactly the regular language
`message, run_spawned, [selection, compiled], side-effects*, [cursor], run_ended` (`lifecycleOk_iff`).
-/
namespace Rip.RunLife

@[simp] theorem threadOf_nil : threadOf [] = [] := rfl
@[simp] theorem sessionOf_nil : sessionOf [] = [] := rfl
@[simp] theorem threadOf_append (a b : List Fr) : threadOf (a ++ b) = threadOf a ++ threadOf b :=
  List.filterMap_append
@[simp] theorem sessionOf_append (a b : List Fr) : sessionOf (a ++ b) = sessionOf a ++ sessionOf b :=
  List.filterMap_append
@[simp] theorem threadOf_cons_s (k : SK) (l : List Fr) : threadOf (.session k :: l) = threadOf l := rfl
@[simp] theorem threadOf_cons_t (k : TK) (l : List Fr) : threadOf (.thread k :: l) = k :: threadOf l := rfl
@[simp] theorem sessionOf_cons_s (k : SK) (l : List Fr) : sessionOf (.session k :: l) = k :: sessionOf l := rfl
@[simp] theorem sessionOf_cons_t (k : TK) (l : List Fr) : sessionOf (.thread k :: l) = sessionOf l := rfl
@[simp] theorem threadOf_rep_s (n : Nat) (k : SK) : threadOf (rep n (.session k)) = [] :=
  List.filterMap_replicate_of_none rfl
@[simp] theorem sessionOf_rep_s (n : Nat) (k : SK) : sessionOf (rep n (.session k)) = List.replicate n k :=
  List.filterMap_replicate_of_some rfl

/-! ### the predicates the results are stated with -/

def AllSide (l : List TK) : Prop := ∀ k ∈ l, k = .sideFx
def Mid (l : List SK) : Prop := ∀ k ∈ l, k ≠ .started ∧ k ≠ .ended

theorem allSide_nil : AllSide [] := List.forall_mem_nil _
theorem mid_nil : Mid [] := List.forall_mem_nil _
theorem AllSide.append {a b : List TK} (ha : AllSide a) (hb : AllSide b) : AllSide (a ++ b) :=
  List.forall_mem_append.mpr ⟨ha, hb⟩
theorem Mid.append {a b : List SK} (ha : Mid a) (hb : Mid b) : Mid (a ++ b) :=
  List.forall_mem_append.mpr ⟨ha, hb⟩
theorem allSide_single : AllSide [.sideFx] := List.forall_mem_singleton.mpr rfl
theorem mid_cons {k : SK} {l : List SK} (h1 : k ≠ .started) (h2 : k ≠ .ended) (hl : Mid l) : Mid (k :: l) :=
  List.forall_mem_cons.mpr ⟨⟨h1, h2⟩, hl⟩
theorem mid_replicate (n : Nat) (k : SK) (h1 : k ≠ .started) (h2 : k ≠ .ended) : Mid (List.replicate n k) :=
  List.forall_mem_replicate.mpr (.inr ⟨h1, h2⟩)
theorem allSide_replicate (n : Nat) : AllSide (List.replicate n .sideFx) :=
  List.forall_mem_replicate.mpr (.inr rfl)
theorem allSide_eq_replicate {l : List TK} (h : AllSide l) : l = List.replicate l.length .sideFx :=
  List.eq_replicate_iff.mpr ⟨rfl, h⟩

/-! ### between the opening and the closing frames -/

/-- What the middle of a body consists of (`mid` of `body_shape`, between the optional selection pair and
the optional cursor frame): session frames other than the start and the end frame and, if the run is
attached, side-effects frames. Tools, turns and bodies enter the theorems only as lists of such frames,
and a frame-wise predicate is closed under `++`, `flatten` and `replicate` for free. -/
def Inner (linked : Bool) (l : List Fr) : Prop :=
  ∀ f ∈ l, match f with
    | .session k => k ≠ .started ∧ k ≠ .ended
    | .thread k => linked = true ∧ k = .sideFx

theorem Inner.append {b : Bool} {l₁ l₂ : List Fr} (h₁ : Inner b l₁) (h₂ : Inner b l₂) : Inner b (l₁ ++ l₂) :=
  List.forall_mem_append.mpr ⟨h₁, h₂⟩

theorem Inner.flatten_map {α : Type} {b : Bool} {g : α → List Fr} (h : ∀ a, Inner b (g a)) (l : List α) :
    Inner b (l.map g).flatten :=
  List.forall_mem_flatten.mpr (List.forall_mem_map.mpr fun a _ => h a)

theorem Inner.thread {b : Bool} {l : List Fr} (h : Inner b l) : AllSide (threadOf l) := by
  refine List.forall_mem_filterMap.mpr fun f hf k hk => ?_
  cases f with
  | session _ => cases hk
  | thread _ => cases hk; exact (h _ hf).2

theorem Inner.thread_unlinked {l : List Fr} (h : Inner false l) : threadOf l = [] := by
  refine List.filterMap_eq_nil_iff.mpr fun f hf => ?_
  cases f with
  | session _ => rfl
  | thread _ => cases (h _ hf).1

theorem Inner.session {b : Bool} {l : List Fr} (h : Inner b l) : Mid (sessionOf l) := by
  refine List.forall_mem_filterMap.mpr fun f hf k hk => ?_
  cases f with
  | session _ => cases hk; exact h _ hf
  | thread _ => cases hk

/-- session frames of a kind other than `started`/`ended`; at every use the kind is a literal, so
the side condition is an auto-param closed by `decide` -/
theorem inner_rep {b : Bool} (n : Nat) {k : SK} (hk : k ≠ .started ∧ k ≠ .ended := by decide) :
    Inner b (rep n (.session k)) :=
  List.forall_mem_replicate.mpr (.inr hk)

theorem toolFrames_inner (linked inLoop : Bool) (t : Tool) : Inner linked (toolFrames linked inLoop t) := by
  have tool : Inner linked [.session .tool] := inner_rep 1
  fun_cases toolFrames linked inLoop t
  · exact tool.append tool
  · refine tool.append ((inner_rep _).append ?_)
    cases linked
    · exact List.forall_mem_nil _
    · cases t.needsLock
      · exact List.forall_mem_nil _
      · exact List.forall_mem_singleton.mpr ⟨rfl, rfl⟩

theorem turnFrames_inner (linked : Bool) (t : Turn) : Inner linked (turnFrames linked t) :=
  (inner_rep _).append (Inner.flatten_map (toolFrames_inner linked true) t.tools)

/-- Every body is `sel ++ mid ++ cur ++ [ended]`: an optional selection pair, `Inner` frames `mid`, an optional cursor
frame, the end frame. Selection and cursor frames go to the thread, so only an attached run has them: `r.linked &&`
as in `body`. -/
theorem body_shape (r : Run) : ∃ (sel cur : Bool) (mid : List Fr), Inner r.linked mid ∧
    body r = (if r.linked && sel then [.thread .selDecided, .thread .compiled] else []) ++ mid ++
       (if r.linked && cur then [.thread .cursor] else []) ++ [.session .ended] := by
  have out : Inner r.linked [.session .output] := inner_rep 1
  obtain ⟨input, linked, provider, compileOk, turns, completed, hasCursor⟩ := r
  cases input with
  | tool t => exact ⟨false, false, _, (toolFrames_inner linked false t).append out, by simp [body]⟩
  | checkpoint n => exact ⟨false, false, _, (inner_rep n (k := .tool)).append out, by simp [body]⟩
  | prompt =>
    cases provider
    · exact ⟨false, false, _, out, by simp [body]⟩
    · have turns_inner := Inner.flatten_map (turnFrames_inner linked) turns
      cases linked
      · exact ⟨false, false, _, turns_inner, by simp [body]⟩
      · cases compileOk
        · exact ⟨false, false, [], List.forall_mem_nil _, rfl⟩
        · exact ⟨true, completed && hasCursor, _, turns_inner, by cases completed <;> rfl⟩

/-! ### the acceptor -/

def stripSel : List TK → List TK
  | .selDecided :: .compiled :: r => r
  | r => r
def stripCur : List TK → List TK
  | .cursor :: r => r
  | r => r

theorem lifecycleOk_cons (rest : List TK) :
    lifecycleOk (.message :: .runSpawned :: rest) =
      (stripCur ((stripSel rest).dropWhile (· == .sideFx)) == [.runEnded]) := by rfl

theorem lifecycleOk_true_head {l : List TK} (h : lifecycleOk l = true) :
    ∃ rest, l = .message :: .runSpawned :: rest := by
  revert h
  fun_cases lifecycleOk l
  · exact fun _ => ⟨_, rfl⟩
  · exact nofun

theorem stripSel_spec (l : List TK) :
    ∃ sel : Bool, l = (if sel then [.selDecided, .compiled] else []) ++ stripSel l := by
  fun_cases stripSel l
  · exact ⟨true, rfl⟩
  · exact ⟨false, rfl⟩

theorem stripCur_spec (l : List TK) : ∃ cur : Bool, l = (if cur then [.cursor] else []) ++ stripCur l := by
  fun_cases stripCur l
  · exact ⟨true, rfl⟩
  · exact ⟨false, rfl⟩

theorem dropSide_spec (l : List TK) : ∃ n, l = List.replicate n .sideFx ++ l.dropWhile (· == .sideFx) := by
  refine ⟨(l.takeWhile (· == .sideFx)).length, ?_⟩
  rw [← allSide_eq_replicate fun k hk => eq_of_beq (List.all_eq_true.mp List.all_takeWhile k hk),
    List.takeWhile_append_dropWhile]

theorem stripSel_append (sel : Bool) {t : List TK} (ht : stripSel t = t) :
    stripSel ((if sel then [.selDecided, .compiled] else []) ++ t) = t := by
  cases sel
  · exact ht
  · rfl

theorem lifecycleOk_iff (l : List TK) : lifecycleOk l = true ↔ ∃ (sel cur : Bool) (n : Nat),
    l = [.message, .runSpawned] ++ (if sel then [.selDecided, .compiled] else []) ++ List.replicate n .sideFx ++
      (if cur then [.cursor] else []) ++ [.runEnded] := by
  constructor
  · -- each stage of the acceptor gives back what it stripped
    intro h
    obtain ⟨rest, rfl⟩ := lifecycleOk_true_head h
    rw [lifecycleOk_cons, beq_iff_eq] at h
    obtain ⟨sel, hsel⟩ := stripSel_spec rest
    obtain ⟨n, hn⟩ := dropSide_spec (stripSel rest)
    obtain ⟨cur, hcur⟩ := stripCur_spec ((stripSel rest).dropWhile (· == .sideFx))
    refine ⟨sel, cur, n, ?_⟩
    rw [hsel, hn, hcur, h]
    simp only [List.append_assoc]
    rfl
  · rintro ⟨sel, cur, n, rfl⟩
    simp only [List.append_assoc, List.cons_append, List.nil_append]
    rw [lifecycleOk_cons, stripSel_append,
      List.dropWhile_append_of_pos fun k hk => beq_of_eq (List.eq_of_mem_replicate hk)]
    · cases cur <;> rfl
    · -- what follows the optional pair starts with `sideFx`, `cursor` or `runEnded`
      cases n
      · cases cur <;> rfl
      · rfl

/-! ### non-vacuity: concrete runs -/

/-- a prompt run with provider, two turns, a mutating tool (and a barred one) and a cursor -/
def exPrompt : Run :=
  { input := .prompt, linked := true, provider := true, compileOk := true,
    turns := [⟨2, [⟨true, false, 3⟩, ⟨false, true, 1⟩]⟩, ⟨1, [⟨true, false, 0⟩]⟩],
    completed := true, hasCursor := true }

example : threadOf (trace exPrompt) =
    [.message, .runSpawned, .selDecided, .compiled, .sideFx, .sideFx, .cursor, .runEnded] := by decide
example : lifecycleOk (threadOf (trace exPrompt)) = true := by decide
example : sessionOf (trace exPrompt) =
    [.started, .provider, .provider, .tool, .tool, .tool, .tool, .tool, .tool, .provider, .tool, .ended] := by
  decide

/-- a tool envelope run (mutating tool, attached) -/
def exTool : Run :=
  { input := .tool ⟨true, false, 2⟩, linked := true, provider := false, compileOk := true,
    turns := [], completed := false, hasCursor := false }

example : trace exTool =
    [.thread .message, .thread .runSpawned, .session .started, .session .tool, .session .tool, .session .tool,
     .thread .sideFx, .session .output, .session .ended, .thread .runEnded] := by decide
example : lifecycleOk (threadOf (trace exTool)) = true := by decide

/-- a context-compile failure: the run still ends, with nothing between run_spawned and run_ended -/
def exCompileFail : Run :=
  { input := .prompt, linked := true, provider := true, compileOk := false,
    turns := [⟨1, []⟩], completed := true, hasCursor := true }

example : trace exCompileFail =
    [.thread .message, .thread .runSpawned, .session .started, .session .ended, .thread .runEnded] := by decide
example : lifecycleOk (threadOf (trace exCompileFail)) = true := by decide

/-- the same prompt run, unattached: nothing on any thread, the session is unchanged in shape -/
example : threadOf (trace { exPrompt with linked := false }) = [] := by decide

/-- the acceptor is not trivially true -/
example : lifecycleOk [.message, .runSpawned, .selDecided, .runEnded] = false := by decide
example : lifecycleOk [.message, .runSpawned, .cursor, .sideFx, .runEnded] = false := by decide
example : lifecycleOk [.message, .runSpawned, .runEnded, .runEnded] = false := by decide
example : lifecycleOk [.runSpawned, .message, .runEnded] = false := by decide

end Rip.RunLife
