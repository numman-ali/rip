import Rip.Lemmas.FS
/-!
C12: what a successful run of the patch engine did. `OpOk` lists, per operation, the stages `applyOp`
went through; `opSpec`/`specRun` say what the operations mean without the engine's bookkeeping, and
the engine agrees with them. The specification changes no file but the ones the operations name (the
cover lemma of C14).
-/
namespace Rip.Patch
open Rip.Proto Rip.Basic

/-- What one patch operation means, with no engine bookkeeping (no undo list, no changed list). -/
def opSpec (fs : FS) : Op → Option FS
  | .add p content =>
    if p.mustDir || fs.exists p.comps then none
    else (fs.createDirAll p.comps.dropLast).bind (fun fs1 => fs1.write p.comps content)
  | .delete p =>
    if p.mustDir then none
    else match fs.file p.comps with
      | some _ => some (fs.setFile p.comps none)
      | none => none
  | .update p movedTo hunks =>
    if p.mustDir then none
    else match fs.file p.comps with
      | none => none
      | some bytes =>
        if !Rip.Utf8.isValid bytes then none else
        match applyHunks bytes hunks with
        | none => none
        | some updated =>
          match fs.write p.comps updated with
          | none => none
          | some fs1 =>
            match movedTo with
            | none => some fs1
            | some t =>
              if t.mustDir || fs1.exists t.comps then none
              else (fs1.createDirAll t.comps.dropLast).bind (fun fs2 => fs2.rename p.comps t.comps)

def specRun (fs : FS) : List Op → Option FS
  | [] => some fs
  | op :: ops => (opSpec fs op).bind (fun fs1 => specRun fs1 ops)

/-- the paths an operation names, as reported -/
def named : Op → List Bytes
  | .add p _ => [p.raw]
  | .delete p => [p.raw]
  | .update p m _ => p.raw :: (match m with | some t => [t.raw] | none => [])

def namedComps : Op → List Path
  | .add p _ => [p.comps]
  | .delete p => [p.comps]
  | .update p m _ => p.comps :: (match m with | some t => [t.comps] | none => [])

/-! ### the stages of a successful operation -/

/-- What a successful `applyOp` did, stage by stage. A move is an in-place update followed by
placing the file at the target. -/
inductive OpOk (s : St) : Op → St → Prop
  | add {p : RPath} {c : Bytes} {undo : Undo} {fs1 fs2 : FS} :
    p.mustDir = false → s.fs.exists p.comps = false →
    recordUndo s.fs s.undo p.comps = some undo →
    s.fs.createDirAll p.comps.dropLast = some fs1 → fs1.write p.comps c = some fs2 →
    OpOk s (.add p c) { fs := fs2, undo := undo, changed := s.changed ++ [p.raw] }
  | delete {p : RPath} {undo : Undo} {fs1 : FS} :
    p.mustDir = false → s.fs.exists p.comps = true →
    recordUndo s.fs s.undo p.comps = some undo → s.fs.removeFile p.comps = some fs1 →
    OpOk s (.delete p) { fs := fs1, undo := undo, changed := s.changed ++ [p.raw] }
  | update {p : RPath} {hunks : List Hunk} {undo : Undo} {bytes updated : Bytes} {fs1 : FS} :
    p.mustDir = false → s.fs.exists p.comps = true →
    recordUndo s.fs s.undo p.comps = some undo → s.fs.file p.comps = some bytes →
    Rip.Utf8.isValid bytes = true → applyHunks bytes hunks = some updated →
    s.fs.write p.comps updated = some fs1 →
    OpOk s (.update p none hunks) { fs := fs1, undo := undo, changed := s.changed ++ [p.raw] }
  | move {p t : RPath} {hunks : List Hunk} {s1 : St} {undo2 : Undo} {fs2 fs3 : FS} :
    OpOk s (.update p none hunks) s1 →
    t.mustDir = false → s1.fs.exists t.comps = false →
    recordUndo s1.fs s1.undo t.comps = some undo2 →
    s1.fs.createDirAll t.comps.dropLast = some fs2 → fs2.rename p.comps t.comps = some fs3 →
    OpOk s (.update p (some t) hunks) { fs := fs3, undo := undo2, changed := s1.changed ++ [t.raw] }

theorem OpOk_of_applyOp {s s' : St} {op : Op} : applyOp s op = .ok s' → OpOk s op s' := by
  fun_cases applyOp s op
  all_goals try exact error_ne_ok
  next p c hm he undo hr fs1 hc fs2 hw =>
    rintro ⟨⟩
    exact .add (Bool.eq_false_iff.2 hm) (Bool.eq_false_iff.2 he) hr hc hw
  next p hm he undo hr fs1 hrm =>
    rintro ⟨⟩
    exact .delete (Bool.eq_false_iff.2 hm) (by simpa using he) hr hrm
  next p hunks hm he undo hr bytes hb hv updated hu fs1 hw s1 =>
    -- `s1` is a `let` of this branch; `ok s1 = ok s'` cannot be eliminated while it is one
    subst s1
    rintro ⟨⟩
    exact .update (Bool.eq_false_iff.2 hm) (by simpa using he) hr hb (by simpa using hv) hu hw
  next p hunks hm he undo hr bytes hb hv updated hu fs1 hw s1 t htm hte undo2 hr2 fs2 hc fs3 hrn =>
    rintro ⟨⟩
    exact .move (.update (Bool.eq_false_iff.2 hm) (by simpa using he) hr hb (by simpa using hv) hu hw)
      (Bool.eq_false_iff.2 htm) (Bool.eq_false_iff.2 hte) hr2 hc hrn

/-! ### the engine against the specification -/

theorem OpOk_exact {s s' : St} {op : Op} (h : OpOk s op s') :
    opSpec s.fs op = some s'.fs ∧ s'.changed = s.changed ++ named op := by
  -- `induction`, not `cases`: the indices are variables, and it is the cheaper of the two
  induction h with
  | add hm he _ hc hw => simp [opSpec, named, hm, he, hc, hw]
  | delete hm he _ hrm =>
    obtain ⟨hf, rfl⟩ := removeFile_some hrm
    obtain ⟨b, hb⟩ := Option.ne_none_iff_exists'.mp hf
    simp [opSpec, named, hm, hb]
  | update hm _ _ hb hv hu hw => simp [opSpec, named, hm, hb, hv, hu, hw]
  | move hup htm hte _ hc hrn =>
    cases hup with
    | update hm _ _ hb hv hu hw =>
      simp [opSpec, named, hm, hb, hv, hu, hw, htm, hte, hc, hrn]

theorem applyOp_exact (s s' : St) (op : Op) (h : applyOp s op = .ok s') :
    opSpec s.fs op = some s'.fs ∧ s'.changed = s.changed ++ named op :=
  OpOk_exact (OpOk_of_applyOp h)

theorem applyOps_exact (s s' : St) (ops : List Op) (h : applyOps s ops = .ok s') :
    specRun s.fs ops = some s'.fs ∧ s'.changed = s.changed ++ (ops.map named).flatten := by
  fun_induction applyOps s ops
  next =>
    cases h
    simp [specRun]
  next s op ops s1 hop ih =>
    obtain ⟨a1, a2⟩ := applyOp_exact s s1 op hop
    obtain ⟨b1, b2⟩ := ih h
    simp [specRun, a1, b1, b2, a2]
  next => cases h

theorem applyPatchOps_ok {fb : FS → Path → Bool} {fs fs' : FS} {ops : List Op} {changed : List Bytes} :
    applyPatchOps fb fs ops = (.ok changed, fs') →
    ∃ s, applyOps { fs := fs, undo := [], changed := [] } ops = .ok s ∧
      changed = sortDedup s.changed ∧ fs' = s.fs := by
  fun_cases applyPatchOps fb fs ops
  next s hs =>
    rintro ⟨⟩
    exact ⟨s, hs, rfl, rfl⟩
  next => exact nofun

theorem applyPatchOps_error {fb : FS → Path → Bool} {fs fs' : FS} {ops : List Op} {e : Err} :
    applyPatchOps fb fs ops = (.error e, fs') →
    ∃ s, applyOps { fs := fs, undo := [], changed := [] } ops = .error (e, s) ∧
      fs' = revert fb s.fs s.undo := by
  fun_cases applyPatchOps fb fs ops
  next => exact nofun
  next e s hs =>
    rintro ⟨⟩
    exact ⟨s, hs, rfl⟩

/-! ### what the specification leaves alone -/

theorem opSpec_changes_only_named {fs fs' : FS} {op : Op} :
    opSpec fs op = some fs' → ∀ q, q ∉ namedComps op → fs'.file q = fs.file q := by
  fun_cases opSpec fs op
  -- `with_reducible`: on the two `bind` goals the attempt would unfold `createDirAll` before it fails
  all_goals try with_reducible exact none_ne_some
  all_goals intro h q hq
  all_goals simp only [namedComps, List.mem_cons, List.not_mem_nil, or_false, not_or] at hq
  next =>  -- add
    obtain ⟨fs1, hc, hw⟩ := Option.bind_eq_some_iff.mp h
    rw [write_file_ne hw hq, (createDirAll_some hc).2.1]
  next =>  -- delete
    cases h
    rw [setFile_file, if_neg hq]
  next hw =>  -- update in place
    cases h
    exact write_file_ne hw hq
  next hw _ _ =>  -- update and move
    obtain ⟨fs2, hc, hrn⟩ := Option.bind_eq_some_iff.mp h
    rw [rename_file_ne hrn hq.1 hq.2, (createDirAll_some hc).2.1, write_file_ne hw hq.1]

/-- a patch changes no file other than the ones it names (so an automatic checkpoint of the named
paths covers every file the patch can change) -/
theorem spec_changes_only_named (fs fs' : FS) (ops : List Op) (h : specRun fs ops = some fs') :
    ∀ q, q ∉ (ops.map namedComps).flatten → fs'.file q = fs.file q := by
  induction ops generalizing fs with
  | nil =>
    cases h
    exact fun _ _ => rfl
  | cons op ops ih =>
    obtain ⟨fsA, ho, h⟩ := Option.bind_eq_some_iff.mp h
    intro q hq
    simp only [List.map_cons, List.flatten_cons, List.mem_append, not_or] at hq
    rw [ih fsA h q hq.2]
    exact opSpec_changes_only_named ho q hq.1

end Rip.Patch
