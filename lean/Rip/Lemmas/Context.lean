import Rip.Model.Context
import Rip.Lemmas.Basic
/-!
C08: what the context compiler computes, piece by piece. Of a valid thread only `Increasing` is used. The cut
point is read off `(messages evs).dropWhile (·.id != anchor)`: one message left means the head, two or more the
frame before the second (`HasNext`). The hierarchy rests on the invariant `UniqueInv` of the `uniqueByToSeq` fold.
-/
namespace Rip.Context
open Rip.Basic

/-! ### general facts about lists -/

theorem takeWhile_eq_filter_of_pairwise {α : Type} (p : α → Bool) (l : List α)
    (h : l.Pairwise (fun a b => p b = true → p a = true)) : l.takeWhile p = l.filter p := by
  induction l with
  | nil => rfl
  | cons x xs ih =>
    obtain ⟨hx, hxs⟩ := List.pairwise_cons.1 h
    rw [List.takeWhile_cons, List.filter_cons, ih hxs]
    cases hp : p x with
    | true => rfl
    | false => exact (List.filter_eq_nil_iff.2 fun a ha hpa => Bool.eq_false_iff.1 hp (hx a ha hpa)).symm

theorem dropWhile_eq_cons_iff {α : Type} {p : α → Bool} {l : List α} {a : α} {rest : List α} :
    l.dropWhile p = a :: rest ↔ ∃ pre, l = pre ++ a :: rest ∧ (∀ x ∈ pre, p x = true) ∧ p a = false := by
  constructor
  · intro h
    have ha := List.head?_dropWhile_not p l
    rw [h] at ha
    exact ⟨l.takeWhile p, by rw [← h, List.takeWhile_append_dropWhile], List.all_eq_true.1 List.all_takeWhile, ha⟩
  · rintro ⟨pre, rfl, h2, h3⟩
    rw [List.dropWhile_append_of_pos h2, List.dropWhile_cons, h3]
    rfl

theorem messages_append (evs later : List F) : messages (evs ++ later) = messages evs ++ messages later := by
  unfold messages; exact List.filter_append ..

theorem messages_sublist (evs : List F) : (messages evs).Sublist evs := List.filter_sublist

theorem mem_messages {evs : List F} {m : F} : m ∈ messages evs ↔ m ∈ evs ∧ m.isMessage = true := by
  unfold messages; exact List.mem_filter

/-! ### increasing seqs -/

def Increasing (evs : List F) : Prop := evs.Pairwise (fun a b => a.seq < b.seq)

theorem Valid.increasing {evs : List F} (hv : Valid evs) : Increasing evs := by
  unfold Increasing
  rw [List.pairwise_iff_getElem]
  intro i j hi hj hij
  rw [hv i hi, hv j hj]
  exact hij

theorem Increasing.left {evs later : List F} (h : Increasing (evs ++ later)) : Increasing evs :=
  (List.pairwise_append.1 h).1

theorem Increasing.right {evs later : List F} (h : Increasing (evs ++ later)) : Increasing later :=
  (List.pairwise_append.1 h).2.1

theorem Increasing.filter {evs : List F} (h : Increasing evs) (q : F → Bool) : Increasing (evs.filter q) :=
  List.Pairwise.filter q h

theorem Valid.left {evs later : List F} (hv : Valid (evs ++ later)) : Valid evs := fun i h => by
  rw [List.getElem_append_left' h later, hv]

theorem Valid.seq_lt {evs : List F} (hv : Valid evs) {f : F} (hf : f ∈ evs) : f.seq < evs.length := by
  obtain ⟨i, hi, rfl⟩ := List.mem_iff_getElem.1 hf
  rwa [hv i hi]

theorem Valid.le_seq_right {evs later : List F} (hv : Valid (evs ++ later)) {f : F} (hf : f ∈ later) :
    evs.length ≤ f.seq := by
  obtain ⟨i, hi, rfl⟩ := List.mem_iff_getElem.1 hf
  rw [List.getElem_append_right' evs hi, hv]
  exact Nat.le_add_left _ _

theorem headSeq_valid {evs : List F} (hv : Valid evs) (hne : evs ≠ []) : headSeq evs = evs.length - 1 := by
  have hl : evs.length - 1 < evs.length := Nat.sub_one_lt (mt List.length_eq_zero_iff.1 hne)
  unfold headSeq
  rw [List.getLast?_eq_getElem?, List.getElem?_eq_getElem hl, Option.map_some, Option.getD_some, hv _ hl]

theorem Increasing.seq_le_headSeq {evs : List F} (hi : Increasing evs) {f : F} (hf : f ∈ evs) :
    f.seq ≤ headSeq evs := by
  unfold headSeq
  cases hl : evs.getLast? with
  | none => exact absurd (List.getLast?_eq_none_iff.1 hl) (List.ne_nil_of_mem hf)
  | some x => exact le_getLast_of_pairwise F.seq hi hl f hf

/-! ### A. the selection -/

theorem selectRecent_suffix (evs : List F) (f : Nat) (a : Option Nat) (l : Nat) :
    selectRecent evs f a l <:+ (messages evs).filter (inRange f a) := by
  unfold selectRecent
  exact List.drop_suffix _ _

theorem selectRecent_length (evs : List F) (f : Nat) (a : Option Nat) (l : Nat) :
    (selectRecent evs f a l).length = min l ((messages evs).filter (inRange f a)).length := by
  unfold selectRecent
  rw [List.length_drop, Nat.sub_sub_eq_min, Nat.min_comm]

theorem selectRecent_mem (evs : List F) (f : Nat) (a : Option Nat) (l : Nat) (m : F)
    (h : m ∈ selectRecent evs f a l) :
    m ∈ evs ∧ m.isMessage = true ∧ m.seq ≤ f ∧ (∀ x, a = some x → x < m.seq) := by
  obtain ⟨h2, h3⟩ := List.mem_filter.1 ((selectRecent_suffix evs f a l).mem h)
  obtain ⟨h4, h5⟩ := mem_messages.1 h2
  unfold inRange at h3
  obtain ⟨hle, hafter⟩ := Bool.and_eq_true_iff.1 h3
  refine ⟨h4, h5, of_decide_eq_true hle, fun x hx => ?_⟩
  subst hx
  exact of_decide_eq_true hafter

theorem selectRecent_sublist (evs : List F) (f : Nat) (a : Option Nat) (l : Nat) :
    (selectRecent evs f a l).Sublist evs :=
  ((selectRecent_suffix evs f a l).sublist.trans List.filter_sublist).trans (messages_sublist evs)

theorem selectRecent_complete (evs : List F) (hi : Increasing evs) (f : Nat) (a : Option Nat) (l : Nat) (m : F)
    (hm : m ∈ messages evs) (hr : inRange f a m = true) (hns : m ∉ selectRecent evs f a l) :
    ∀ s ∈ selectRecent evs f a l, m.seq < s.seq := by
  obtain ⟨t, ht⟩ := selectRecent_suffix evs f a l
  have hp : Increasing ((messages evs).filter (inRange f a)) := (hi.filter _).filter _
  have hmem := List.mem_filter.2 ⟨hm, hr⟩
  rw [← ht] at hp hmem
  exact (List.pairwise_append.1 hp).2.2 m ((List.mem_append.1 hmem).resolve_right hns)

/-! ### B. the cut point -/

theorem dropWhile_anchor {evs : List F} {anchor : Nat} {a : F} {rest : List F}
    (h : (messages evs).dropWhile (fun f => f.id != anchor) = a :: rest) :
    a.id = anchor ∧ a ∈ messages evs ∧ ∀ x ∈ rest, x ∈ messages evs := by
  obtain ⟨pre, e, -, ha⟩ := dropWhile_eq_cons_iff.1 h
  exact ⟨bne_eq_false_iff_eq.1 ha, List.forall_mem_cons.1 fun x hx => e ▸ List.mem_append_right pre hx⟩

theorem cutpoint_none_iff (evs : List F) (anchor : Nat) :
    cutpoint evs anchor = none ↔ ∀ m ∈ messages evs, m.id ≠ anchor := by
  fun_cases cutpoint evs anchor with
  | case1 h =>
    -- nothing is left after the `dropWhile`, so every message carries another id
    have hall := List.any_dropWhile (p := fun f : F => f.id != anchor) (l := messages evs)
    simp only [h, List.any_nil, Bool.false_eq, Bool.not_eq_false', List.all_eq_true, bne_iff_ne] at hall
    exact ⟨fun _ => hall, fun _ => rfl⟩
  | case2 a rest h =>
    obtain ⟨hid, ha, -⟩ := dropWhile_anchor h
    exact ⟨nofun, fun hall => absurd hid (hall a ha)⟩

theorem cutpoint_spec (evs : List F) (hi : Increasing evs) (anchor : Nat) (c : Nat)
    (h : cutpoint evs anchor = some c) :
    ∃ m ∈ messages evs, m.id = anchor ∧ m.seq ≤ c ∧ c ≤ max m.seq (headSeq evs) := by
  -- `fun_cases` rewrites the goal only, so `h` goes there first
  revert h
  fun_cases cutpoint evs anchor with
  | case1 => nofun
  | case2 a rest hd =>
    rintro ⟨⟩
    obtain ⟨hid, ha, hrest⟩ := dropWhile_anchor hd
    refine ⟨a, ha, hid, Nat.le_max_left _ _, ?_⟩
    cases rest with
    | nil => exact Nat.le_refl _
    | cons n post =>
      have := hi.seq_le_headSeq (mem_messages.1 (hrest n List.mem_cons_self)).1
      exact Nat.max_le.2 ⟨Nat.le_max_left _ _,
        Nat.le_trans (Nat.le_trans (Nat.sub_le _ _) this) (Nat.le_max_right _ _)⟩

theorem cutpoint_of_dropWhile {evs : List F} {anchor : Nat} {a n : F} {post : List F}
    (h : (messages evs).dropWhile (fun f => f.id != anchor) = a :: n :: post) :
    cutpoint evs anchor = some (max a.seq (n.seq - 1)) := by
  unfold cutpoint
  rw [h]

/-- the anchor's message and a later message are both in `evs` -/
def HasNext (evs : List F) (anchor : Nat) : Prop :=
  ∃ a n post, (messages evs).dropWhile (fun f => f.id != anchor) = a :: n :: post

theorem hasNext_iff (evs : List F) (anchor : Nat) :
    HasNext evs anchor ↔
      ∃ pre a n post, messages evs = pre ++ a :: n :: post ∧ a.id = anchor ∧ (∀ x ∈ pre, x.id ≠ anchor) := by
  unfold HasNext
  constructor
  · rintro ⟨a, n, post, h⟩
    obtain ⟨pre, h1, h2, h3⟩ := dropWhile_eq_cons_iff.1 h
    exact ⟨pre, a, n, post, h1, bne_eq_false_iff_eq.1 h3, fun x hx => bne_iff_ne.1 (h2 x hx)⟩
  · rintro ⟨pre, a, n, post, h1, h2, h3⟩
    exact ⟨a, n, post, dropWhile_eq_cons_iff.2
      ⟨pre, h1, fun x hx => bne_iff_ne.2 (h3 x hx), bne_eq_false_iff_eq.2 h2⟩⟩

theorem cutpoint_append_of_hasNext {evs : List F} {anchor : Nat} (hn : HasNext evs anchor) (later : List F) :
    cutpoint (evs ++ later) anchor = cutpoint evs anchor := by
  obtain ⟨a, n, post, hd⟩ := hn
  -- both `dropWhile`s stop at `a`, and `n` follows in both
  unfold cutpoint
  rw [messages_append, List.dropWhile_append, hd]
  rfl

/-- the cut is the frame before the next message `n`; the last conjunct: `n.seq - 1` does not truncate -/
theorem cutpoint_next (evs : List F) (hi : Increasing evs) (anchor : Nat) (a n : F) (post : List F)
    (h : (messages evs).dropWhile (fun f => f.id != anchor) = a :: n :: post) :
    a.seq < n.seq ∧ cutpoint evs anchor = some (n.seq - 1) ∧ n.seq - 1 + 1 = n.seq := by
  have hs : Increasing ((messages evs).dropWhile (fun f => f.id != anchor)) :=
    List.Pairwise.sublist (List.dropWhile_sublist _) (hi.filter _)
  rw [h] at hs
  have hlt : a.seq < n.seq := List.rel_of_pairwise_cons hs List.mem_cons_self
  refine ⟨hlt, ?_, Nat.sub_add_cancel (Nat.zero_lt_of_lt hlt)⟩
  rw [cutpoint_of_dropWhile h, Nat.max_eq_right (Nat.le_sub_one_of_lt hlt)]

theorem cutpoint_last (evs : List F) (hv : Valid evs) (anchor : Nat) (a : F)
    (h : (messages evs).dropWhile (fun f => f.id != anchor) = [a]) :
    cutpoint evs anchor = some (headSeq evs) := by
  have := hv.increasing.seq_le_headSeq (mem_messages.1 (dropWhile_anchor h).2.1).1
  unfold cutpoint
  rw [h]
  exact congrArg some (Nat.max_eq_right this)

/-! ### C. appended frames do not matter -/

theorem checkpoints_append (s : Bool) (evs later : List F) (c : Nat) :
    checkpoints s (evs ++ later) c = checkpoints s evs c ++ checkpoints s later c := by
  unfold checkpoints; exact List.filterMap_append

theorem selectRecent_append_of_after (evs later : List F) (c : Nat) (a : Option Nat) (l : Nat)
    (h : ∀ f ∈ later, c < f.seq) :
    selectRecent (evs ++ later) c a l = selectRecent evs c a l := by
  have hnil : (messages later).filter (inRange c a) = [] :=
    List.filter_eq_nil_iff.2 fun m hm hr =>
      Nat.not_le_of_gt (h m (mem_messages.1 hm).1) (of_decide_eq_true (Bool.and_eq_true_iff.1 hr).1)
  unfold selectRecent
  simp only [messages_append, List.filter_append, hnil, List.append_nil]

/-- the function that `endedFor` maps over the frames -/
def endedG (mid : Nat) (f : F) : Option Nat :=
  match f.kind with
  | .runEnded m s => if m == mid then some s else none
  | _ => none

theorem endedFor_of_increasing {evs : List F} (hi : Increasing evs) (f mid : Nat) :
    endedFor evs f mid = ((evs.filter (fun x => decide (x.seq ≤ f))).filterMap (endedG mid)).getLast? := by
  -- seqs increase, so the frames at or before `f` are a prefix
  rw [← takeWhile_eq_filter_of_pairwise _ _ (hi.imp fun hab hb =>
    decide_eq_true (Nat.le_trans (Nat.le_of_lt hab) (of_decide_eq_true hb)))]
  rfl

theorem endedFor_append_of_after (evs later : List F) (hi : Increasing (evs ++ later)) (c mid : Nat)
    (h : ∀ f ∈ later, c < f.seq) : endedFor (evs ++ later) c mid = endedFor evs c mid := by
  have hnil : later.filter (fun x => decide (x.seq ≤ c)) = [] :=
    List.filter_eq_nil_iff.2 fun x hx hle => Nat.not_le_of_gt (h x hx) (of_decide_eq_true hle)
  rw [endedFor_of_increasing hi, endedFor_of_increasing hi.left, List.filter_append, hnil, List.append_nil]

theorem messageItems_congr {evs evs' : List F} {c c' : Nat} {reply : Nat → Nat} {sel : List F}
    (h : ∀ m ∈ sel, endedFor evs c m.id = endedFor evs' c' m.id) :
    messageItems evs c reply sel = messageItems evs' c' reply sel := by
  unfold messageItems
  exact congrArg List.flatten (List.map_congr_left fun m hm => by rw [h m hm])

/-- what is appended after the cut changes nothing, provided it contributes no checkpoint -/
theorem compile_append_of (s : Bool) (evs later : List F) (hi : Increasing (evs ++ later)) (anchor : Nat)
    (hn : HasNext evs anchor) (reply : Nat → Nat)
    (hl : ∀ c, cutpoint evs anchor = some c → (∀ f ∈ later, c < f.seq) → checkpoints s later c = []) :
    compile s (evs ++ later) anchor reply = compile s evs anchor reply := by
  have hcut' := cutpoint_append_of_hasNext hn later
  obtain ⟨a, n, post, hd⟩ := hn
  obtain ⟨-, hcut, -⟩ := cutpoint_next evs hi.left anchor a n post hd
  -- every later frame lies after the cut: it lies after `n`
  have hnmem : n ∈ evs := (mem_messages.1 ((dropWhile_anchor hd).2.2 n List.mem_cons_self)).1
  have hafter : ∀ f ∈ later, n.seq - 1 < f.seq := fun f hf =>
    Nat.lt_of_le_of_lt (Nat.sub_le _ _) ((List.pairwise_append.1 hi).2.2 n hnmem f hf)
  -- so checkpoints, selection and replies at this cut are those of `evs`
  simp only [compile, hcut', hcut, checkpoints_append, hl _ hcut hafter, List.append_nil,
    selectRecent_append_of_after _ _ _ _ _ hafter,
    messageItems_congr fun m _ => endedFor_append_of_after _ _ hi _ m.id hafter]

theorem checkpoints_eq_nil (s : Bool) (later : List F) (c : Nat)
    (h : ∀ f ∈ later, ∀ cp t cum a, f.kind = .checkpoint cp t cum a → c < t ∨ (s = true ∧ c < f.seq)) :
    checkpoints s later c = [] := by
  unfold checkpoints
  rw [List.filterMap_eq_nil_iff]
  intro f hf
  split
  · next cp t cum a hk =>
    rw [if_neg]
    rcases h f hf cp t cum a hk with ht | ⟨rfl, hlt⟩
    · simp [Nat.not_le_of_gt ht]
    · simp [Nat.not_le_of_gt hlt]
  · rfl

/-- repaired semantics (`strictCut = true`) -/
theorem later_frames_irrelevant (evs later : List F) (hi : Increasing (evs ++ later)) (anchor : Nat)
    (hn : HasNext evs anchor) (reply : Nat → Nat) :
    compile true (evs ++ later) anchor reply = compile true evs anchor reply :=
  compile_append_of true evs later hi anchor hn reply fun c _ hafter =>
    checkpoints_eq_nil true later c fun f hf _ _ _ _ _ => Or.inr ⟨rfl, hafter f hf⟩

/-- the code as it is (`strictCut = false`): true when no later checkpoint frame summarises up to the cut
or before -/
theorem later_frames_irrelevant_partial (evs later : List F) (hi : Increasing (evs ++ later)) (anchor : Nat)
    (hn : HasNext evs anchor) (reply : Nat → Nat) (c : Nat) (hc : cutpoint evs anchor = some c)
    (hl : ∀ f ∈ later, ∀ cp t cum a, f.kind = .checkpoint cp t cum a → c < t) :
    compile false (evs ++ later) anchor reply = compile false evs anchor reply := by
  apply compile_append_of false evs later hi anchor hn reply
  intro c' hc' _
  obtain rfl := Option.some.inj (hc.symm.trans hc')
  exact checkpoints_eq_nil false later c fun f hf cp t cum a hk => Or.inl (hl f hf cp t cum a hk)

/-! ### D. the read path does not matter -/

/-- the projection the fast read paths hand to the compiler: message and run_ended frames only -/
def isMR (f : F) : Bool := match f.kind with | .message _ => true | .runEnded _ _ => true | _ => false

theorem messages_filter_isMR (evs : List F) : messages (evs.filter isMR) = messages evs := by
  unfold messages
  rw [List.filter_filter]
  apply List.filter_congr
  intro x _
  unfold F.isMessage isMR
  cases x.kind <;> rfl

theorem mr_selectRecent (evs : List F) (f : Nat) (a : Option Nat) (l : Nat) :
    selectRecent (evs.filter isMR) f a l = selectRecent evs f a l := by
  unfold selectRecent; rw [messages_filter_isMR]

theorem endedG_none_of_not_isMR (mid : Nat) (x : F) (h : isMR x = false) : endedG mid x = none := by
  unfold isMR at h; unfold endedG
  cases hk : x.kind <;> simp_all

theorem mr_endedFor (evs : List F) (hi : Increasing evs) (f mid : Nat) :
    endedFor (evs.filter isMR) f mid = endedFor evs f mid := by
  -- a filter before `filterMap` is a guard inside it, and off `isMR` the guarded `endedG` is `none` anyway
  rw [endedFor_of_increasing (hi.filter isMR), endedFor_of_increasing hi, List.filter_filter,
    List.filterMap_filter, List.filterMap_filter]
  refine congrArg (fun g => (evs.filterMap g).getLast?) (funext fun x => ?_)
  cases hm : isMR x with
  | true => rw [Bool.and_true]
  | false => rw [endedG_none_of_not_isMR mid x hm, ite_self, ite_self]

theorem mr_messageItems (evs : List F) (hi : Increasing evs) (f : Nat) (reply : Nat → Nat) (sel : List F) :
    messageItems (evs.filter isMR) f reply sel = messageItems evs f reply sel :=
  messageItems_congr (fun m _ => mr_endedFor evs hi f m.id)

theorem window_selectRecent (pre win : List F) (f : Nat) (a : Option Nat) (l : Nat)
    (h : l ≤ ((messages win).filter (inRange f a)).length) :
    selectRecent (pre ++ win) f a l = selectRecent win f a l := by
  unfold selectRecent
  simp only [messages_append, List.filter_append, List.length_append]
  rw [Nat.add_sub_assoc h, List.drop_length_add_append]

/-- `h` holds e.g. when the window reaches back past the summary checkpoint -/
theorem window_selectRecent_all (pre win : List F) (f : Nat) (a : Option Nat) (l : Nat)
    (h : ∀ m ∈ messages pre, inRange f a m = false) :
    selectRecent (pre ++ win) f a l = selectRecent win f a l := by
  have hnil : (messages pre).filter (inRange f a) = [] :=
    List.filter_eq_nil_iff.2 fun m hm => Bool.eq_false_iff.1 (h m hm)
  unfold selectRecent
  simp only [messages_append, List.filter_append, hnil, List.nil_append]

/-- `h` holds for a message inside the window: its run_ended frame lies after it -/
theorem window_endedFor (pre win : List F) (hi : Increasing (pre ++ win)) (f mid : Nat)
    (h : ∀ x ∈ pre, ∀ s, x.kind ≠ .runEnded mid s) :
    endedFor (pre ++ win) f mid = endedFor win f mid := by
  have hnil : (pre.filter (fun x => decide (x.seq ≤ f))).filterMap (endedG mid) = [] := by
    rw [List.filterMap_eq_nil_iff]
    intro x hx
    fun_cases endedG mid x with
    | case1 m s hk hm =>
      obtain rfl := beq_iff_eq.1 hm
      exact absurd hk (h x (List.mem_filter.1 hx).1 s)
    | case2 => rfl
    | case3 => rfl
  rw [endedFor_of_increasing hi, endedFor_of_increasing hi.right, List.filter_append,
    List.filterMap_append, hnil, List.nil_append]

/-! ### E. the summary hierarchy -/

/-- ascending by to_seq, one entry per to_seq -/
def SortedTo (l : List Cp) : Prop := l.Pairwise (fun a b => a.toSeq < b.toSeq)

theorem mem_insertByToSeq (c : Cp) (acc : List Cp) (u : Cp) (h : u ∈ insertByToSeq c acc) :
    u = c ∨ u ∈ acc := by
  fun_induction insertByToSeq c acc with
  | case1 => exact Or.inl (List.mem_singleton.1 h)
  | case2 d ds hlt => exact List.mem_cons.1 h
  | case3 d ds hlt heq hge =>
    exact (List.mem_cons.1 h).imp_right (List.mem_cons_of_mem _)
  | case4 d ds hlt heq hge => exact Or.inr h
  | case5 d ds hlt hne ih =>
    rcases List.mem_cons.1 h with h | h
    · exact Or.inr (h ▸ List.mem_cons_self)
    · exact (ih h).imp_right (List.mem_cons_of_mem _)

theorem insertByToSeq_sorted (c : Cp) (acc : List Cp) (hs : SortedTo acc) : SortedTo (insertByToSeq c acc) := by
  fun_induction insertByToSeq c acc with
  | case1 => exact List.pairwise_singleton _ _
  | case2 d ds hlt =>
    exact List.pairwise_cons.2
      ⟨List.forall_mem_cons.2 ⟨hlt, fun x hx => Nat.lt_trans hlt (List.rel_of_pairwise_cons hs hx)⟩, hs⟩
  | case3 d ds hlt heq hge =>
    exact List.pairwise_cons.2 ⟨fun x hx => lt_of_eq_of_lt (beq_iff_eq.1 heq) (List.rel_of_pairwise_cons hs hx),
      (List.pairwise_cons.1 hs).2⟩
  | case4 d ds hlt heq hge => exact hs
  | case5 d ds hlt hne ih =>
    refine List.pairwise_cons.2 ⟨fun x hx => ?_, ih (List.pairwise_cons.1 hs).2⟩
    rcases mem_insertByToSeq c ds x hx with rfl | hx
    · exact Nat.lt_of_le_of_ne (Nat.le_of_not_lt hlt) fun e => hne (beq_iff_eq.2 e.symm)
    · exact List.rel_of_pairwise_cons hs hx

theorem SortedTo.eq_of_toSeq_eq {l : List Cp} (hs : SortedTo l) {u v : Cp} (hu : u ∈ l) (hv : v ∈ l)
    (h : u.toSeq = v.toSeq) : u = v :=
  List.Pairwise.forall_of_forall_of_flip (R := fun a b => a.toSeq = b.toSeq → a = b) (fun _ _ _ => rfl)
    (hs.imp fun hlt e => absurd e (Nat.ne_of_lt hlt)) (hs.imp fun hlt e => absurd e (Nat.ne_of_gt hlt)) hu hv h

/-- nothing is dropped except for an entry with its to_seq and at least its frame seq -/
theorem insertByToSeq_dominates (c : Cp) (acc : List Cp) :
    ∀ x ∈ c :: acc, ∃ u ∈ insertByToSeq c acc, u.toSeq = x.toSeq ∧ x.frameSeq ≤ u.frameSeq := by
  have stays : ∀ {l : List Cp}, ∀ x ∈ l, ∃ u ∈ l, u.toSeq = x.toSeq ∧ x.frameSeq ≤ u.frameSeq :=
    fun x h => ⟨x, h, rfl, Nat.le_refl _⟩
  fun_induction insertByToSeq c acc with
  | case1 => exact stays
  | case2 d ds hlt => exact stays
  | case3 d ds hlt heq hge =>
    -- `c` stands for itself and for `d`
    exact List.forall_mem_cons.2 ⟨stays c List.mem_cons_self, List.forall_mem_cons.2
      ⟨⟨c, List.mem_cons_self, beq_iff_eq.1 heq, hge⟩, fun x hx => stays x (List.mem_cons_of_mem _ hx)⟩⟩
  | case4 d ds hlt heq hge =>
    -- `d` stands for `c`
    exact List.forall_mem_cons.2
      ⟨⟨d, List.mem_cons_self, (beq_iff_eq.1 heq).symm, Nat.le_of_lt (Nat.lt_of_not_le hge)⟩, stays⟩
  | case5 d ds hlt hne ih =>
    -- `d` stays, `c` and `ds` are represented in the tail
    have hrec : ∀ x ∈ c :: ds, ∃ u ∈ d :: insertByToSeq c ds, u.toSeq = x.toSeq ∧ x.frameSeq ≤ u.frameSeq :=
      fun x hx => (ih x hx).imp fun u hu => ⟨List.mem_cons_of_mem _ hu.1, hu.2⟩
    obtain ⟨hc, hds⟩ := List.forall_mem_cons.1 hrec
    exact List.forall_mem_cons.2 ⟨hc, List.forall_mem_cons.2 ⟨stays d List.mem_cons_self, hds⟩⟩

/-- the invariant of the `uniqueByToSeq` fold: `acc` summarises the processed entries `done` -/
structure UniqueInv (done acc : List Cp) : Prop where
  sorted : SortedTo acc
  latest : ∀ u ∈ acc, u ∈ done ∧ ∀ c ∈ done, c.toSeq = u.toSeq → c.frameSeq ≤ u.frameSeq
  covers : ∀ c ∈ done, ∃ u ∈ acc, u.toSeq = c.toSeq

theorem UniqueInv.step {done acc : List Cp} (h : UniqueInv done acc) (c : Cp) :
    UniqueInv (done ++ [c]) (insertByToSeq c acc) := by
  have hs := insertByToSeq_sorted c acc h.sorted
  -- every processed entry is dominated in the new list; that list has one entry per to_seq, so each of its
  -- entries dominates all processed entries with its to_seq
  have dom : ∀ x ∈ done ++ [c], ∃ u ∈ insertByToSeq c acc, u.toSeq = x.toSeq ∧ x.frameSeq ≤ u.frameSeq := by
    refine List.forall_mem_append.2 ⟨fun x hx => ?_,
      List.forall_mem_singleton.2 (insertByToSeq_dominates c acc c List.mem_cons_self)⟩
    obtain ⟨u', hu', he'⟩ := h.covers x hx
    obtain ⟨u, hu, he, hle⟩ := insertByToSeq_dominates c acc u' (List.mem_cons_of_mem _ hu')
    exact ⟨u, hu, he.trans he', Nat.le_trans ((h.latest u' hu').2 x hx he'.symm) hle⟩
  refine ⟨hs, fun u hu => ⟨?_, fun x hx he => ?_⟩, fun x hx => (dom x hx).imp fun u hu => ⟨hu.1, hu.2.1⟩⟩
  · rcases mem_insertByToSeq c acc u hu with rfl | hu
    · exact List.mem_append_right _ List.mem_cons_self
    · exact List.mem_append_left _ (h.latest u hu).1
  · obtain ⟨u', hu', he', hle⟩ := dom x hx
    rwa [hs.eq_of_toSeq_eq hu hu' (he'.trans he).symm]

theorem uniqueByToSeq_inv (cps : List Cp) : UniqueInv cps (uniqueByToSeq cps) :=
  foldl_hist_inv (Inv := UniqueInv) (fun _ _ c h => h.step c) cps (pre := [])
    ⟨List.Pairwise.nil, List.forall_mem_nil _, List.forall_mem_nil _⟩

theorem halving_length (unique : List Cp) (fuel cur : Nat) : (halving unique fuel cur).length ≤ fuel := by
  fun_induction halving unique fuel cur with
  | case5 fuel cur hcur d hd hlt ih => exact Nat.succ_le_succ ih
  | _ => exact Nat.zero_le _

theorem halving_mem (unique : List Cp) (fuel cur : Nat) :
    ∀ c ∈ halving unique fuel cur, c ∈ unique ∧ c.toSeq ≤ cur / 2 ∧ c.toSeq < cur := by
  fun_induction halving unique fuel cur with
  | case5 fuel cur hcur d hd hlt ih =>
    have hdm := List.mem_filter.1 (List.mem_of_getLast? hd)
    have hdle : d.toSeq ≤ cur / 2 := of_decide_eq_true hdm.2
    have hdlt : d.toSeq < cur := Nat.lt_of_not_le hlt
    refine List.forall_mem_cons.2 ⟨⟨hdm.1, hdle, hdlt⟩, fun c hc => ?_⟩
    obtain ⟨h1, h2, h3⟩ := ih c hc
    exact ⟨h1, Nat.le_trans h2 (Nat.le_trans (Nat.div_le_self _ _) hdle), Nat.lt_trans h3 hdlt⟩
  | _ => exact List.forall_mem_nil _

theorem halving_pairwise (unique : List Cp) (fuel cur : Nat) :
    (halving unique fuel cur).Pairwise (fun a b => b.toSeq ≤ a.toSeq / 2 ∧ b.toSeq < a.toSeq) := by
  fun_induction halving unique fuel cur with
  | case5 fuel cur hcur d hd hlt ih =>
    exact List.pairwise_cons.2 ⟨fun x hx => (halving_mem unique fuel d.toSeq x hx).2, ih⟩
  | _ => exact List.Pairwise.nil

theorem hierarchy_eq (cps : List Cp) (n : Nat) (hn : n ≠ 0) :
    hierarchy cps n =
      match (uniqueByToSeq (cps.filter (·.cumulative))).getLast? with
      | none => []
      | some latest =>
        (latest :: halving (uniqueByToSeq (cps.filter (·.cumulative))) (n - 1) latest.toSeq).reverse :=
  if_neg hn

theorem hierarchy_length (cps : List Cp) (n : Nat) : (hierarchy cps n).length ≤ n := by
  fun_cases hierarchy cps n with
  | case3 hn unique latest hl =>
    rw [List.length_reverse, List.length_cons]
    exact Nat.lt_of_le_of_lt (halving_length unique (n - 1) latest.toSeq) (Nat.sub_one_lt hn)
  | _ => exact Nat.zero_le _

theorem hierarchy_mem_unique (cps : List Cp) (n : Nat) :
    ∀ c ∈ hierarchy cps n, c ∈ uniqueByToSeq (cps.filter (·.cumulative)) := by
  fun_cases hierarchy cps n with
  | case3 hn unique latest hl =>
    intro c h
    rcases List.mem_cons.1 (List.mem_reverse.1 h) with rfl | h
    · exact List.mem_of_getLast? hl
    · exact (halving_mem _ _ _ _ h).1
  | _ => exact List.forall_mem_nil _

theorem hierarchy_mem (cps : List Cp) (n : Nat) (c : Cp) (h : c ∈ hierarchy cps n) :
    c ∈ cps ∧ c.cumulative = true := by
  have := ((uniqueByToSeq_inv _).latest c (hierarchy_mem_unique cps n c h)).1
  exact List.mem_filter.1 this

theorem hierarchy_latest_frame (cps : List Cp) (n : Nat) (c : Cp) (h : c ∈ hierarchy cps n) :
    ∀ d ∈ cps, d.cumulative = true → d.toSeq = c.toSeq → d.frameSeq ≤ c.frameSeq := by
  intro d hd hcum he
  exact ((uniqueByToSeq_inv _).latest c (hierarchy_mem_unique cps n c h)).2 d
    (List.mem_filter.2 ⟨hd, hcum⟩) he

theorem hierarchy_pairwise (cps : List Cp) (n : Nat) :
    (hierarchy cps n).Pairwise (fun a b => a.toSeq ≤ b.toSeq / 2 ∧ a.toSeq < b.toSeq) := by
  fun_cases hierarchy cps n with
  | case3 hn unique latest hl =>
    rw [List.pairwise_reverse]
    exact List.pairwise_cons.2 ⟨fun x hx => (halving_mem _ _ _ x hx).2, halving_pairwise _ _ _⟩
  | _ => exact List.Pairwise.nil

theorem hierarchy_sorted (cps : List Cp) (n : Nat) :
    (hierarchy cps n).Pairwise (fun a b => a.toSeq < b.toSeq) :=
  (hierarchy_pairwise cps n).imp (fun h => h.2)

theorem hierarchy_halves (cps : List Cp) (n : Nat) :
    (hierarchy cps n).Pairwise (fun a b => a.toSeq ≤ b.toSeq / 2) :=
  (hierarchy_pairwise cps n).imp (fun h => h.1)

theorem hierarchy_halves_adjacent (cps : List Cp) (n : Nat) (i : Nat) (h : i + 1 < (hierarchy cps n).length) :
    ((hierarchy cps n)[i]).toSeq ≤ ((hierarchy cps n)[i + 1]).toSeq / 2 :=
  List.pairwise_iff_getElem.1 (hierarchy_halves cps n) i (i + 1) (Nat.lt_of_succ_lt h) h (Nat.lt_succ_self i)

theorem hierarchy_last_is_latest (cps : List Cp) (n : Nat) (hn : 0 < n) (c : Cp) (hc : c ∈ cps)
    (hcum : c.cumulative = true) :
    ∃ l, (hierarchy cps n).getLast? = some l ∧ c.toSeq ≤ l.toSeq := by
  obtain ⟨u, hu, hue⟩ := (uniqueByToSeq_inv (cps.filter (·.cumulative))).covers c (List.mem_filter.2 ⟨hc, hcum⟩)
  fun_cases hierarchy cps n with
  | case1 h0 => exact absurd h0 (Nat.ne_of_gt hn)
  | case2 _ unique hnone => exact absurd (List.getLast?_eq_none_iff.1 hnone) (List.ne_nil_of_mem hu)
  | case3 _ unique latest hl =>
    refine ⟨latest, by rw [List.getLast?_reverse, List.head?_cons], ?_⟩
    rw [← hue]
    exact le_getLast_of_pairwise Cp.toSeq (uniqueByToSeq_inv _).sorted hl u hu

/-! ### non-vacuity -/

section NonVacuity

private def evs₀ : List F := [⟨0, 100, .other⟩, ⟨1, 101, .message 7⟩, ⟨2, 102, .runEnded 101 1⟩, ⟨3, 103, .message 8⟩]
private def later₀ : List F := [⟨4, 104, .checkpoint 9 1 true 55⟩, ⟨5, 105, .runEnded 103 2⟩, ⟨6, 106, .message 9⟩]

instance Valid.decidable (l : List F) : Decidable (Valid l) := by unfold Valid; exact inferInstance

/-- `later_frames_irrelevant` applies to a concrete thread whose appended frames include a checkpoint
summarising up to before the cut (the case the unrepaired code gets wrong) -/
example : compile true (evs₀ ++ later₀) 101 (fun s => s + 1) = compile true evs₀ 101 (fun s => s + 1) :=
  later_frames_irrelevant evs₀ later₀ (Valid.increasing (by decide)) 101
    ⟨⟨1, 101, .message 7⟩, ⟨3, 103, .message 8⟩, [], by decide⟩ _

example : compile true evs₀ 101 (fun s => s + 1) =
    some { fromSeq := 2, strategy := .recent, cause := .noCheckpoint, reset := false, selected := [],
           items := [.user 7 1 101, .assistant 2] } := by decide

example : compile false (evs₀ ++ later₀) 101 (fun s => s + 1) ≠ compile false evs₀ 101 (fun s => s + 1) := by
  decide

/-- a three-level hierarchy: to_seqs 40, 18 (≤ 40/2), 9 (≤ 18/2), capped at 3 levels (4 is not reached); the
non-cumulative entry (to_seq 50) and the older frame for to_seq 40 are ignored -/
example : (hierarchy
    [⟨1, 1, 9, true, 0⟩, ⟨2, 2, 18, true, 0⟩, ⟨3, 3, 40, true, 0⟩, ⟨4, 4, 50, false, 0⟩, ⟨5, 5, 40, true, 0⟩,
     ⟨6, 6, 4, true, 0⟩] 3).map (·.cpId) = [1, 2, 5] := by decide

end NonVacuity

end Rip.Context
