import Rip.Model.Rebuild
import Rip.Lemmas.Basic
/-!
C06: a reader rebuilds the sidecar while appenders append. With the fall-back of `replay_events`
under the seq lock (`locked = true`) a readable sidecar never lacks a frame already broadcast, for any
number of appenders and readers and every schedule; with the log read and the rewrite outside the lock
(`locked = false`, the code as it was) a broadcast frame is lost.
-/
namespace Rip.Rebuild
open Rip.Basic

/-- the start states (`init` with any parameters) -/
def Start (s : S) : Prop :=
  ∃ n sideOk junk apps readers, s = init n sideOk junk apps readers

structure Inv (s : S) : Prop where
  /-- frames are their seq -/
  logR : s.log = List.range s.log.length
  /-- an appender past the take holds the lock and has a frame to append; past the log write the
  log is not empty -/
  app : ∀ (i pc left : Nat), s.ps[i]? = some (.app pc left) →
    pc ≤ 4 ∧ (pc ≠ 0 → 0 < left ∧ s.lock = some i) ∧ (pc = 2 ∨ pc = 3 → 0 < s.log.length)
  /-- a reader inside the fall-back holds the lock; its snapshot is the log from the read to the
  release and a prefix of the log once it is done -/
  rd : ∀ (i pc : Nat) (snap : List Nat), s.ps[i]? = some (.rd pc snap) →
    (2 ≤ pc ∧ pc ≤ 4 → s.lock = some i) ∧ (pc = 3 ∨ pc = 4 → snap = s.log) ∧
    (5 ≤ pc → snap <+: s.log)
  /-- a readable sidecar is the log, except between an appender's log write and its sidecar write,
  where it lacks exactly the last frame -/
  side : s.sideOk = true →
    (s.side = s.log ∧ ∀ (i left : Nat), s.ps[i]? ≠ some (.app 2 left)) ∨
    (s.side ++ [s.log.length - 1] = s.log ∧ ∃ (i left : Nat), s.ps[i]? = some (.app 2 left))
  /-- published frames are in the log, and the last frame of the log is not published before the
  appender that wrote it has written the sidecar -/
  pub : ∀ f ∈ s.published, f < s.log.length ∧
    ∀ (i pc left : Nat), s.ps[i]? = some (.app pc left) → pc = 2 ∨ pc = 3 → f + 1 < s.log.length

theorem inv_side_prefix {s : S} (h : Inv s) (hok : s.sideOk = true) : s.side <+: s.log := by
  rcases h.side hok with ⟨h, _⟩ | ⟨h, _⟩
  · exact h ▸ List.prefix_refl _
  · exact h ▸ List.prefix_append _ _

/-! ### the invariant seen from the lock holder

While the lock is free or held by `i`, every other process is outside the critical section (`Out`);
all the rest is an assertion at the program point of `i` (`At`), as for a sequential program: the
annotation of `append_*` and of the fall-back of `replay_events`. -/

/-- outside the critical section the invariant mentions the shared state only through "`snap` is a
prefix of the log", and the log only grows -/
def Out (log : List Nat) : P → Prop
  | .app pc _ => pc = 0
  | .rd pc snap => ¬ (2 ≤ pc ∧ pc ≤ 4) ∧ (5 ≤ pc → snap <+: log)

structure AtApp (s : S) (i pc left : Nat) : Prop where
  pc_le : pc ≤ 4
  lock : pc ≠ 0 → 0 < left ∧ s.lock = some i
  log : pc = 2 ∨ pc = 3 → 0 < s.log.length
  pub : pc = 2 ∨ pc = 3 → ∀ f ∈ s.published, f + 1 < s.log.length
  side : s.sideOk = true → (if pc = 2 then s.side ++ [s.log.length - 1] else s.side) = s.log

structure AtRd (s : S) (i pc : Nat) (snap : List Nat) : Prop where
  lock : 2 ≤ pc ∧ pc ≤ 4 → s.lock = some i
  read : pc = 3 ∨ pc = 4 → snap = s.log
  answer : 5 ≤ pc → snap <+: s.log
  side : s.sideOk = true → s.side = s.log

def At (s : S) (i : Nat) : P → Prop
  | .app pc left => AtApp s i pc left
  | .rd pc snap => AtRd s i pc snap

theorem Out.mono {log log' : List Nat} (hpre : log <+: log') : ∀ {q : P}, Out log q → Out log' q
  | .app _ _, h => h
  | .rd _ _, h => ⟨h.1, fun h5 => (h.2 h5).trans hpre⟩

/-- of a process outside, what the `app` field of `Inv` asks holds whoever has the lock (`Out.rd`: the
same for the `rd` field) -/
theorem Out.app {log : List Nat} {pc left : Nat} (h : Out log (.app pc left)) {lock : Option Nat}
    {i n : Nat} : pc ≤ 4 ∧ (pc ≠ 0 → 0 < left ∧ lock = some i) ∧ (pc = 2 ∨ pc = 3 → 0 < n) := by
  cases (h : pc = 0)
  exact ⟨by decide, fun h => absurd rfl h, fun h => by omega⟩

theorem Out.rd {log : List Nat} {pc : Nat} {snap : List Nat} (h : Out log (.rd pc snap))
    {lock : Option Nat} {i : Nat} :
    (2 ≤ pc ∧ pc ≤ 4 → lock = some i) ∧ (pc = 3 ∨ pc = 4 → snap = log) ∧ (5 ≤ pc → snap <+: log) :=
  ⟨fun hpc => absurd hpc h.1, fun hpc => absurd (by omega) h.1, h.2⟩

theorem inv_init (n : Nat) (sideOk : Bool) (junk : List Nat) (apps : List Nat) (readers : Nat) :
    Inv (init n sideOk junk apps readers) := by
  have hout : ∀ p ∈ (init n sideOk junk apps readers).ps, Out (List.range n) p :=
    List.forall_mem_append.mpr ⟨List.forall_mem_map.mpr fun _ _ => rfl,
      List.forall_mem_replicate.mpr (.inr ⟨by decide, fun h => by omega⟩)⟩
  exact ⟨by simp [init], fun i pc left h => (hout _ (List.mem_of_getElem? h)).app,
    fun i pc snap h => (hout _ (List.mem_of_getElem? h)).rd,
    fun hok => .inl ⟨if_pos hok, fun i left h => nomatch (hout _ (List.mem_of_getElem? h) : 2 = 0)⟩,
    List.forall_mem_nil _⟩

theorem inv_of_at {s : S} {i : Nat} {p : P} (hi : s.ps[i]? = some p) (hat : At s i p)
    (who : ∀ j q, s.ps[j]? = some q → j = i ∧ q = p ∨ Out s.log q)
    (hlog : s.log = List.range s.log.length) (hpub : ∀ f ∈ s.published, f < s.log.length) :
    Inv s := by
  refine ⟨hlog, ?_, ?_, ?_, ?_⟩
  · intro j pc left hj
    rcases who j _ hj with ⟨rfl, rfl⟩ | ho
    · exact ⟨hat.pc_le, hat.lock, hat.log⟩
    · exact ho.app
  · intro j pc snap hj
    rcases who j _ hj with ⟨rfl, rfl⟩ | ho
    · exact ⟨hat.lock, hat.read, hat.answer⟩
    · exact ho.rd
  · intro hok
    -- only `i` can be the appender between its log write and its sidecar write
    have nobody : (∀ left, p ≠ .app 2 left) → ∀ (j left : Nat), s.ps[j]? ≠ some (.app 2 left) := by
      intro hp j left hj
      rcases who j _ hj with ⟨_, rfl⟩ | ho
      · exact hp left rfl
      · cases (ho : 2 = 0)
    cases p with
    | app pc left =>
      by_cases hpc : pc = 2
      · subst hpc
        exact Or.inr ⟨hat.side hok, i, left, hi⟩
      · have hs := hat.side hok
        rw [if_neg hpc] at hs
        exact Or.inl ⟨hs, nobody fun _ e => hpc (P.app.inj e).1⟩
    | rd pc snap => exact Or.inl ⟨hat.side hok, nobody fun _ e => nomatch e⟩
  · intro f hf
    refine ⟨hpub f hf, fun j pc left hj hpc => ?_⟩
    rcases who j _ hj with ⟨rfl, rfl⟩ | ho
    · exact hat.pub hpc f hf
    · cases (ho : pc = 0)
      omega

theorem at_of_inv {s : S} (h : Inv s) {i : Nat} {p : P} (hi : s.ps[i]? = some p)
    (hfree : s.lock = none ∨ s.lock = some i) :
    At s i p ∧ ∀ j q, j ≠ i → s.ps[j]? = some q → Out s.log q := by
  have holder : ∀ j, s.lock = some j → j = i := fun _ => eq_of_free_or_held hfree
  have hout : ∀ j q, j ≠ i → s.ps[j]? = some q → Out s.log q := by
    intro j q hji hj
    cases q with
    | app pc left =>
      show pc = 0
      exact Decidable.byContradiction fun hpc => hji (holder j ((h.app j pc left hj).2.1 hpc).2)
    | rd pc snap =>
      obtain ⟨hlock, _, hpre⟩ := h.rd j pc snap hj
      exact ⟨fun hpc => hji (holder j (hlock hpc)), hpre⟩
  refine ⟨?_, hout⟩
  -- the appender between its log write and its sidecar write, if there is one, is `i`
  have hside : ∀ (j left : Nat), s.ps[j]? = some (P.app 2 left) → p = P.app 2 left := by
    intro j left hj
    by_cases hji : j = i
    · subst hji
      exact Option.some.inj (hi.symm.trans hj)
    · cases (hout j _ hji hj : 2 = 0)
  cases p with
  | app pc left =>
    obtain ⟨hpc, hlock, hlog⟩ := h.app i pc left hi
    refine ⟨hpc, hlock, hlog, fun h23 f hf => (h.pub f hf).2 i pc left hi h23, fun hok => ?_⟩
    rcases h.side hok with ⟨hs, hno⟩ | ⟨hs, j, l, hj⟩
    · rw [if_neg (fun hpc : pc = 2 => hno i left (hpc ▸ hi))]
      exact hs
    · cases hside j l hj
      exact hs
  | rd pc snap =>
    obtain ⟨hlock, hread, hpre⟩ := h.rd i pc snap hi
    refine ⟨hlock, hread, hpre, fun hok => ?_⟩
    rcases h.side hok with ⟨hs, _⟩ | ⟨_, j, l, hj⟩
    · exact hs
    · cases hside j l hj

/-- a step of the process that holds the lock, or takes it while it is free: nothing is to be shown of
the other processes, only that the log grows and stays a `range` (`hpre`, `hlog`), that `published`
stays within it (`hpub`), and the assertion at the new program point (`hat`) -/
theorem inv_holder_step {s s' : S} (h : Inv s) {i : Nat} {p p' : P} (hi : s.ps[i]? = some p)
    (hfree : s.lock = none ∨ s.lock = some i) (hps : s'.ps = s.ps.set i p')
    (hpre : s.log <+: s'.log) (hlog : s'.log = List.range s'.log.length)
    (hpub : ∀ f ∈ s'.published, f < s'.log.length)
    (hat : At s i p → At s' i p') : Inv s' := by
  obtain ⟨hat0, hout⟩ := at_of_inv h hi hfree
  refine inv_of_at (hps ▸ getElem?_set_self_of_some p' hi) (hat hat0) ?_ hlog hpub
  rw [hps]
  exact forall_set (fun j q hji hj => .inr ((hout j q hji hj).mono hpre)) (.inl ⟨rfl, rfl⟩)

/-- the same for a step that leaves the log and the published frames alone -/
theorem inv_holder_step_quiet {s : S} (h : Inv s) {i : Nat} {p p' : P} (hi : s.ps[i]? = some p)
    (hfree : s.lock = none ∨ s.lock = some i) {side : List Nat} {sideOk : Bool} {lock : Option Nat}
    (hat : At s i p → At (setP { s with side, sideOk, lock } i p') i p') :
    Inv (setP { s with side, sideOk, lock } i p') :=
  inv_holder_step h hi hfree rfl (List.prefix_refl _) h.logR (fun f hf => (h.pub f hf).1) hat

/-- a step of a process outside the critical section to another point outside it, the shared
fields untouched: somebody else may hold the lock -/
theorem inv_outside_step {s : S} (h : Inv s) {i : Nat} {p p' : P} (hi : s.ps[i]? = some p)
    (ho : Out s.log p) (ho' : Out s.log p') : Inv (setP s i p') := by
  refine ⟨h.logR, ?_, ?_, ?_, ?_⟩
  · intro j pc left hj
    rcases getElem?_set_cases hj with ⟨_, rfl⟩ | ⟨_, hj⟩
    · exact ho'.app
    · exact h.app j pc left hj
  · intro j pc snap hj
    rcases getElem?_set_cases hj with ⟨_, rfl⟩ | ⟨_, hj⟩
    · exact ho'.rd
    · exact h.rd j pc snap hj
  · intro hok
    refine (h.side hok).imp (And.imp_right fun hno j left hj => ?_) (And.imp_right ?_)
    · rcases getElem?_set_cases hj with ⟨_, rfl⟩ | ⟨_, hj⟩
      · cases (ho' : 2 = 0)
      · exact hno j left hj
    · intro ⟨j, left, hj⟩
      have hji : j ≠ i := fun hji => by
        cases Option.some.inj ((hji ▸ hj).symm.trans hi)
        cases (ho : 2 = 0)
      exact ⟨j, left, (List.getElem?_set_ne (Ne.symm hji)).trans hj⟩
  · intro f hf
    refine ⟨(h.pub f hf).1, fun j pc left hj hpc => ?_⟩
    rcases getElem?_set_cases hj with ⟨_, rfl⟩ | ⟨_, hj⟩
    · cases (ho' : pc = 0)
      omega
    · exact (h.pub f hf).2 j pc left hj hpc

theorem inv_step {s : S} (h : Inv s) (i : Nat) : Inv (step true s i) := by
  have heldA : ∀ {pc left}, s.ps[i]? = some (.app pc left) → pc ≠ 0 →
      s.lock = none ∨ s.lock = some i := fun hi h0 => .inr ((h.app i _ _ hi).2.1 h0).2
  have heldR : ∀ {pc snap}, s.ps[i]? = some (.rd pc snap) → 2 ≤ pc ∧ pc ≤ 4 →
      s.lock = none ∨ s.lock = some i := fun hi hpc => .inr ((h.rd i _ _ hi).1 hpc)
  -- the cases are numbered in the order of the branches of `step`
  fun_cases step true s i with
  | case3 left hl hk hi =>
    -- an appender takes the lock
    exact inv_holder_step_quiet h hi (.inl hk) fun a =>
      ⟨by decide, fun _ => ⟨Nat.pos_of_ne_zero hl, rfl⟩, fun h => by omega, fun h => by omega,
        a.side⟩
  | case5 left _ hi =>
    -- writes the log: the sidecar now lacks exactly the new last frame
    have hlen' : (s.log ++ [s.log.length]).length = s.log.length + 1 := List.length_append
    refine inv_holder_step h hi (heldA hi (by decide)) rfl (List.prefix_append _ _) ?_ ?_ ?_
    · show s.log ++ [s.log.length] = List.range (s.log ++ [s.log.length]).length
      rw [hlen', List.range_succ, ← h.logR]
    · intro f hf
      exact hlen' ▸ Nat.lt_succ_of_lt (h.pub f hf).1
    · intro a
      refine ⟨by decide, fun _ => a.lock (by decide), fun _ => ?_, fun _ f hf => ?_, fun hok => ?_⟩
      · exact hlen' ▸ Nat.succ_pos _
      · exact hlen' ▸ Nat.succ_lt_succ (h.pub f hf).1
      · show s.side ++ [(s.log ++ [s.log.length]).length - 1] = s.log ++ [s.log.length]
        rw [hlen', Nat.add_sub_cancel]
        exact congrArg (· ++ [s.log.length]) (a.side hok)
  | case6 left _ hi =>
    -- writes the sidecar
    exact inv_holder_step_quiet h hi (heldA hi (by decide)) fun a =>
      ⟨by decide, fun _ => a.lock (by decide), fun _ => a.log (.inl rfl), fun _ => a.pub (.inl rfl),
        a.side⟩
  | case7 left _ hi =>
    -- broadcasts the last frame of the log
    exact inv_holder_step h hi (heldA hi (by decide)) rfl (List.prefix_refl _) h.logR
      (List.forall_mem_append.mpr ⟨fun f hf => (h.pub f hf).1, List.forall_mem_singleton.mpr
        (Nat.sub_lt ((h.app i 3 left hi).2.2 (.inr rfl)) Nat.one_pos)⟩)
      fun a => ⟨by decide, fun _ => a.lock (by decide), fun h => by omega, fun h => by omega, a.side⟩
  | case8 pc left hi _ h0 _ h2 _ =>
    -- releases the lock
    exact inv_holder_step_quiet h hi (heldA hi h0) fun a =>
      ⟨by decide, fun hne => absurd rfl hne, fun h => by omega, fun h => by omega,
        fun hok => (if_neg h2 : ite (pc = 2) _ _ = s.side) ▸ a.side hok⟩
  | case9 snap hok hi =>
    -- a reader looks at the sidecar, outside the lock
    exact inv_outside_step h hi ⟨by decide, fun h5 => by omega⟩
      ⟨by decide, fun _ => inv_side_prefix h hok⟩
  | case10 snap _ hi =>
    -- the sidecar is unreadable: on to the fall-back
    exact inv_outside_step h hi ⟨by decide, fun h5 => by omega⟩ ⟨by decide, fun h5 => by omega⟩
  | case11 snap _ hk hi =>
    -- takes the lock
    exact inv_holder_step_quiet h hi (.inl hk) fun a =>
      ⟨fun _ => rfl, fun h => by omega, fun h => by omega, a.side⟩
  | case13 _ hf => exact absurd rfl hf  -- the branch of `locked = false`
  | case14 snap hok hi =>
    -- under the lock: answers from the sidecar if it is readable again, else reads the log
    exact inv_holder_step_quiet h hi (heldR hi (by decide)) fun a =>
      ⟨fun h => by omega, fun h => by omega, fun _ => (a.side hok).symm ▸ List.prefix_refl _,
        a.side⟩
  | case15 snap _ hi =>
    exact inv_holder_step_quiet h hi (heldR hi (by decide)) fun a =>
      ⟨fun _ => a.lock (by decide), fun _ => rfl, fun h => by omega, a.side⟩
  | case16 snap hi =>
    -- rewrites the sidecar from its snapshot, which is the log
    exact inv_holder_step_quiet h hi (heldR hi (by decide)) fun a =>
      ⟨fun _ => a.lock (by decide), fun _ => a.read (.inl rfl), fun h => by omega,
        fun _ => a.read (.inl rfl)⟩
  | case17 snap hi =>
    -- releases the lock
    exact inv_holder_step_quiet h hi (heldR hi (by decide)) fun a =>
      ⟨fun h => by omega, fun h => by omega, fun _ => a.read (.inr rfl) ▸ List.prefix_refl _,
        a.side⟩
  -- no such process, nothing to append, the lock is taken, or the reader is done
  | _ => exact h

theorem inv_run (n : Nat) (sideOk : Bool) (junk : List Nat) (apps : List Nat) (readers : Nat)
    (sched : List Nat) : Inv (run true (init n sideOk junk apps readers) sched) :=
  foldl_inv (f := step true) (P := Inv) (fun _ i h => inv_step h i) sched _
    (inv_init n sideOk junk apps readers)

/-! ### what the invariant says -/

theorem inv_missed {s : S} (h : Inv s) : missed s = [] := by
  fun_cases missed s with
  | case2 => rfl
  | case1 hok =>
    rw [List.filter_eq_nil_iff]
    intro f hf
    have hlog : f ∈ s.log := by
      rw [h.logR]
      exact List.mem_range.mpr (h.pub f hf).1
    have hmem : f ∈ s.side := by
      rcases h.side hok with ⟨hsl, _⟩ | ⟨hsl, j, left, hj⟩
      · rw [hsl]
        exact hlog
      · -- the frame the sidecar lacks is the last of the log, which is not published yet
        have h2 := (h.pub f hf).2 j 2 left hj (Or.inl rfl)
        rw [← hsl, List.mem_append, List.mem_singleton] at hlog
        rcases hlog with hm | hm
        · exact hm
        · exact absurd hm (Nat.ne_of_lt (Nat.lt_sub_of_add_lt h2))
    simpa using hmem

theorem inv_idle {s : S} (h : Inv s) (hk : s.lock = none) (hok : s.sideOk = true) :
    s.side = s.log := by
  rcases h.side hok with ⟨hsl, _⟩ | ⟨_, j, left, hj⟩
  · exact hsl
  · cases hk.symm.trans ((h.app j 2 left hj).2.1 (by decide)).2

/-- with the rewrite under the lock nothing that was broadcast is ever missing from a readable
sidecar: for any number of appenders and readers, any start state in the sense of `Start` and every
schedule -/
theorem no_missed_of_start {s0 : S} (h0 : Start s0) (sched : List Nat) :
    missed (run true s0 sched) = [] := by
  obtain ⟨n, sideOk, junk, apps, readers, rfl⟩ := h0
  exact inv_missed (inv_run n sideOk junk apps readers sched)

/-- what a reader returns (`snap` at pc 5) is a prefix of the log as it is when it returns -/
theorem reader_answer_prefix (n : Nat) (sideOk : Bool) (junk : List Nat) (apps : List Nat) (readers : Nat)
    (sched : List Nat) (i : Nat) (snap : List Nat) :
    let s := run true (init n sideOk junk apps readers) sched
    s.ps[i]? = some (.rd 5 snap) → snap <+: s.log := by
  intro s hi
  exact (inv_run n sideOk junk apps readers sched).rd i 5 snap hi |>.2.2 (Nat.le_refl _)

/-! ### the code as it was -/

/-- `locked = false`: reader 1 reads the log, appender 0 appends and broadcasts
frame 3, reader 1 rewrites the sidecar from its stale snapshot — frame 3 is lost to late subscribers -/
theorem missed_unlocked :
    missed (run false (init 3 false [] [1] 1) [1, 1, 0, 0, 0, 0, 0, 1, 1]) = [3] := by decide

/-- the same schedule under the lock (the appender's steps stutter while the reader holds it),
continued until the reader has released and the appender has appended -/
theorem same_schedule_locked :
    missed (run true (init 3 false [] [1] 1) [1, 1, 0, 0, 0, 0, 0, 1, 1, 1, 1, 1, 0, 0, 0, 0, 0]) = [] ∧
    (run true (init 3 false [] [1] 1) [1, 1, 0, 0, 0, 0, 0, 1, 1, 1, 1, 1, 0, 0, 0, 0, 0]).side = [0, 1, 2, 3] := by decide

end Rip.Rebuild
