import Rip.Model.StoreLTS
import Rip.Lemmas.Basic
/-!
C01: the truth-log writers in the repaired protocol (`locked = true`: every effect of a `create`
happens under the `next_seq` mutex; in either protocol an append to a stream that has no frame, no
map entry and is not known fails without writing).

What one action does is a relation (`Eff`); the mutex, suffix and numbering invariants are proved
over it. The numbering needs fresh thread ids (`FreshIds`) and nothing about who addresses which
thread when.
-/
namespace Rip.StoreLTS
open Rip.Basic

theorem count_nil (σ : Nat) : count [] σ = 0 := rfl

theorem count_append (l₁ l₂ : List (Nat × Nat)) (σ : Nat) :
    count (l₁ ++ l₂) σ = count l₁ σ + count l₂ σ := by
  simp only [count, List.filter_append, List.length_append]

theorem count_snoc (log : List (Nat × Nat)) (σ k τ : Nat) :
    count (log ++ [(σ, k)]) τ = count log τ + (if σ = τ then 1 else 0) := by
  simp only [count, ← List.countP_eq_length_filter, List.countP_append, List.countP_singleton,
    beq_iff_eq]

theorem count_snoc_self (log : List (Nat × Nat)) (σ k : Nat) :
    count (log ++ [(σ, k)]) σ = count log σ + 1 := by
  rw [count_snoc, if_pos rfl]

theorem count_snoc_ne (log : List (Nat × Nat)) {σ τ : Nat} (k : Nat) (h : τ ≠ σ) :
    count (log ++ [(σ, k)]) τ = count log τ := by
  simp [count_snoc, h.symm]

theorem lookup_nil (σ : Nat) : lookup [] σ = none := rfl

theorem lookup_setNext (m : List (Nat × Nat)) (σ k τ : Nat) :
    lookup (setNext m σ k) τ = if τ = σ then some k else lookup m τ := by
  rw [lookup, setNext]
  -- the side conditions as `by exact`: elaborated after `rw` has found the predicate in the goal
  by_cases h : τ = σ
  · rw [if_pos h, List.find?_cons_of_pos (by exact beq_iff_eq.2 h.symm)]
    rfl
  · rw [if_neg h, List.find?_cons_of_neg (by exact fun e => h (beq_iff_eq.1 e).symm),
      List.find?_filter]
    refine congrArg (fun p => (m.find? p).map (·.2)) (funext fun e => ?_)
    rw [Bool.eq_iff_iff, decide_eq_true_iff, bne_iff_ne, beq_iff_eq]
    exact ⟨And.right, fun he => ⟨fun e' => h (he.symm.trans e'), he⟩⟩

theorem lookup_setNext_self (m : List (Nat × Nat)) (σ k : Nat) :
    lookup (setNext m σ k) σ = some k := by simp [lookup_setNext]

theorem lookup_setNext_ne (m : List (Nat × Nat)) {σ τ : Nat} (k : Nat) (h : τ ≠ σ) :
    lookup (setNext m σ k) τ = lookup m τ := by rw [lookup_setNext, if_neg h]

theorem init_ws {progs : List (List Op)} {i : Nat} {w : W} (h : (init progs).ws[i]? = some w) :
    ∃ p, progs[i]? = some p ∧ { prog := p, pc := 0, chosen := 0 } = w :=
  Option.map_eq_some_iff.1 (List.getElem?_map.symm.trans h)

/-! ### `validLog`, declaratively -/

theorem validLog_go_append (l₁ l₂ seen : List (Nat × Nat)) :
    validLog.go (l₁ ++ l₂) seen = (validLog.go l₁ seen && validLog.go l₂ (seen ++ l₁)) := by
  fun_induction validLog.go l₁ seen with
  | case1 seen => simp
  | case2 seen σ k rest ih => simp [validLog.go, ih, Bool.and_assoc]

theorem validLog_snoc (log : List (Nat × Nat)) (σ k : Nat) :
    validLog (log ++ [(σ, k)]) = (validLog log && k == count log σ) := by
  simp [validLog, validLog_go_append, validLog.go]

theorem go_iff (l seen : List (Nat × Nat)) :
    validLog.go l seen = true ↔
      ∀ pre σ k post, l = pre ++ (σ, k) :: post → k = count (seen ++ pre) σ := by
  constructor
  · rintro hv pre σ k post rfl
    simp only [validLog_go_append, validLog.go, Bool.and_eq_true, beq_iff_eq] at hv
    exact hv.2.1
  · intro h
    induction l using snoc_induction with
    | nil => rfl
    | snoc l e ih =>
      obtain ⟨σ, k⟩ := e
      rw [validLog_go_append, validLog.go, validLog.go, Bool.and_true, Bool.and_eq_true,
        beq_iff_eq]
      constructor
      · refine ih fun pre τ j post hl => h pre τ j (post ++ [(σ, k)]) ?_
        rw [hl, List.append_assoc, List.cons_append]
      · exact h l σ k [] rfl

theorem validLog_iff (log : List (Nat × Nat)) :
    validLog log = true ↔
      ∀ pre σ k post, log = pre ++ (σ, k) :: post → k = count pre σ :=
  go_iff log []

theorem seqs_of_validLog (log : List (Nat × Nat)) (hv : validLog log = true) (σ : Nat) :
    (log.filter (fun e => e.1 == σ)).map (·.2) = List.range (count log σ) := by
  induction log using snoc_induction with
  | nil => rfl
  | snoc l e ih =>
    obtain ⟨τ, k⟩ := e
    rw [validLog_snoc, Bool.and_eq_true, beq_iff_eq] at hv
    rw [List.filter_append, List.map_append, ih hv.1, count_snoc]
    by_cases h : τ = σ
    · subst h
      simp [List.range_succ, hv.2]
    · simp [h]

/-! ### one effect of a writer, as a relation -/

/-- One effect of writer `i` in the repaired protocol: from the shared state `s` and its own record
to the new log, map, lock and record. `Eff` contains every effect of `stepW true` (`stepW_eff`) and
more: `lock` and `choose` each stand for two of its branches and `fail` has lost its guard. The
invariants hold of this larger relation, and that is all they are needed for. In the remaining
branches (empty program, mutex taken) the writer stutters. -/
inductive Eff (known : Nat → Bool) (i : Nat) (s : S) :
    W → List (Nat × Nat) → List (Nat × Nat) → Option Nat → W → Prop
  | lock {op : Op} {rest : List Op} {c : Nat} : s.lock = none →
      Eff known i s ⟨op :: rest, 0, c⟩ s.log s.next (some i) ⟨op :: rest, 1, c⟩
  | choose {σ c : Nat} {rest : List Op} (k : Nat) :
      (lookup s.next σ = some k ∨ (lookup s.next σ = none ∧ k = count s.log σ)) →
      ¬ (count s.log σ = 0 ∧ lookup s.next σ = none ∧ known σ = false) →
      Eff known i s ⟨.append σ :: rest, 1, c⟩ (s.log ++ [(σ, k)]) s.next s.lock
        ⟨.append σ :: rest, 2, k⟩
  | fail {σ c : Nat} {rest : List Op} :
      Eff known i s ⟨.append σ :: rest, 1, c⟩ s.log s.next none ⟨rest, 0, 0⟩
  | bump {σ c : Nat} {rest : List Op} :
      Eff known i s ⟨.append σ :: rest, 2, c⟩ s.log (setNext s.next σ (c + 1)) s.lock
        ⟨.append σ :: rest, 3, c⟩
  | unlock {σ pc c : Nat} {rest : List Op} :
      Eff known i s ⟨.append σ :: rest, pc + 3, c⟩ s.log s.next none ⟨rest, 0, 0⟩
  | frame0 {σ c : Nat} {rest : List Op} :
      Eff known i s ⟨.create σ :: rest, 1, c⟩ (s.log ++ [(σ, 0)]) s.next s.lock
        ⟨.create σ :: rest, 2, c⟩
  | map1 {σ c : Nat} {rest : List Op} :
      Eff known i s ⟨.create σ :: rest, 2, c⟩ s.log (setNext s.next σ 1) s.lock
        ⟨.create σ :: rest, 3, c⟩
  | frame1 {σ c : Nat} {rest : List Op} :
      Eff known i s ⟨.create σ :: rest, 3, c⟩ (s.log ++ [(σ, 1)]) s.next s.lock
        ⟨.create σ :: rest, 4, c⟩
  | map2 {σ pc c : Nat} {rest : List Op} :
      Eff known i s ⟨.create σ :: rest, pc + 4, c⟩ s.log (setNext s.next σ 2) none ⟨rest, 0, 0⟩

/-- What holds after a stutter and after every effect holds after `stepW true`. With the state and
the record taken apart every branch but the one that consults the map is closed by computation. -/
theorem stepW_eff {P : S → Prop} {known : Nat → Bool} {s : S} {i : Nat} {w : W} (hs : P s)
    (heff : ∀ {log' next' lock' w'}, Eff known i s w log' next' lock' w' →
      P ⟨log', next', lock', s.ws.set i w'⟩) : P (stepW true known s i w) := by
  obtain ⟨prog, pc, chosen⟩ := w
  obtain ⟨log, next, lock, ws⟩ := s
  cases prog with
  | nil => exact hs
  | cons op rest =>
    cases op with
    | append σ =>
      rcases pc with _ | _ | _ | n
      · cases lock with
        | some x => exact hs
        | none => exact heff (.lock rfl)
      · simp only [stepW]
        cases hl : lookup next σ with
        | some k =>
          exact heff (.choose k (Or.inl hl) (fun h => nomatch hl.symm.trans h.2.1))
        | none =>
          by_cases hc : (count log σ = 0 && !known σ) = true
          · rw [if_pos hc]
            exact heff .fail
          · rw [if_neg hc]
            exact heff (.choose _ (Or.inr ⟨hl, rfl⟩) (fun h => hc (by simp [h.1, h.2.2])))
      · exact heff .bump
      · exact heff .unlock
    | create σ =>
      rcases pc with _ | _ | _ | _ | n
      · cases lock with
        | some x => exact hs
        | none => exact heff (.lock rfl)
      · exact heff .frame0
      · exact heff .map1
      · exact heff .frame1
      · exact heff .map2

theorem act_keeps {P : S → Prop} {known : Nat → Bool} {s : S} (hs : P s)
    (heff : ∀ {i w log' next' lock' w'}, s.ws[i]? = some w → Eff known i s w log' next' lock' w' →
      P ⟨log', next', lock', s.ws.set i w'⟩)
    (hrestart : idle s = true → P { s with next := [] }) (a : Act) : P (act true known s a) := by
  fun_cases act true known s a with
  | case1 i w hw => exact stepW_eff hs (heff hw)
  | case2 i hw => exact hs
  | case3 hid => exact hrestart hid
  | case4 hid => exact hs

section eff
variable {known : Nat → Bool} {s : S} {i : Nat} {w w' : W}
  {log' next' : List (Nat × Nat)} {lock' : Option Nat}

theorem Eff.suffix (h : Eff known i s w log' next' lock' w') : ∃ pre, w.prog = pre ++ w'.prog := by
  -- `induction`, not `cases`: the indices are variables, and it is the cheaper of the two
  induction h with
  | fail | unlock | map2 => exact ⟨[_], rfl⟩
  | _ => exact ⟨[], rfl⟩

theorem Eff.mutex (h : Eff known i s w log' next' lock' w') (hl : 0 < w.pc → s.lock = some i) :
    (s.lock = none ∨ s.lock = some i) ∧ (0 < w'.pc → lock' = some i) := by
  induction h with
  | lock hlk => exact ⟨Or.inl hlk, fun _ => rfl⟩
  | choose | frame0 | bump | map1 | frame1 =>
    have := hl (Nat.succ_pos _)
    exact ⟨Or.inr this, fun _ => this⟩
  | fail | unlock | map2 =>
    exact ⟨Or.inr (hl (Nat.succ_pos _)), fun h => absurd h (Nat.lt_irrefl 0)⟩

end eff

/-! ### the mutex invariant (no hypothesis on the programs) -/

/-- a writer in the middle of an operation (pc ≥ 1) is the recorded holder of the mutex -/
def LockInv (s : S) : Prop := ∀ (i : Nat) (w : W), s.ws[i]? = some w → 0 < w.pc → s.lock = some i

/-- every writer but `j` is between operations -/
def OthersIdle (s : S) (j : Nat) : Prop := ∀ (m : Nat) (wm : W), m ≠ j → s.ws[m]? = some wm → wm.pc = 0

theorem idle_of_lock {s : S} {j : Nat} (hL : LockInv s) (hfree : s.lock = none ∨ s.lock = some j) :
    OthersIdle s j :=
  fun m wm hne hm => (Nat.eq_zero_or_pos wm.pc).resolve_right fun h =>
    hne (eq_of_free_or_held hfree (hL m wm hm h))

theorem lockInv_eff {known : Nat → Bool} {s : S} {i : Nat} {w w' : W}
    {log' next' : List (Nat × Nat)} {lock' : Option Nat} (hL : LockInv s) (hw : s.ws[i]? = some w)
    (h : Eff known i s w log' next' lock' w') :
    LockInv ⟨log', next', lock', s.ws.set i w'⟩ := by
  obtain ⟨hfree, hself⟩ := h.mutex (hL i w hw)
  refine forall_set (Q := fun m (wm : W) => 0 < wm.pc → lock' = some m) ?_ hself
  intro m wm hne hm hpc
  exact absurd (idle_of_lock hL hfree m wm hne hm) (Nat.ne_of_gt hpc)

theorem lockInv_init (progs : List (List Op)) : LockInv (init progs) := by
  intro i w hw hcs
  obtain ⟨p, _, rfl⟩ := init_ws hw
  exact absurd hcs (Nat.lt_irrefl 0)

theorem lock_holder (known : Nat → Bool) (progs : List (List Op)) (sched : List Act) (i : Nat)
    (wi : W) (hi : (run true known progs sched).ws[i]? = some wi) (hci : 0 < wi.pc) :
    (run true known progs sched).lock = some i :=
  -- not a projection of `good_run`: that needs `FreshIds`, mutual exclusion does not
  foldl_inv (P := LockInv)
    (fun _ a hL => act_keeps hL (lockInv_eff hL) (fun _ => hL) a)
    sched _ (lockInv_init progs) i wi hi hci

/-! ### the suffix invariant -/

/-- what is left of writer `i`'s program is a suffix of `progs[i]` -/
def Suff (progs : List (List Op)) (s : S) : Prop :=
  ∀ (i : Nat) (w : W), s.ws[i]? = some w → ∃ done, progs[i]? = some (done ++ w.prog)

theorem suff_eff {known : Nat → Bool} {progs : List (List Op)} {s : S} {i : Nat} {w w' : W}
    {log' next' : List (Nat × Nat)} {lock' : Option Nat} (hS : Suff progs s) (hw : s.ws[i]? = some w)
    (h : Eff known i s w log' next' lock' w') :
    Suff progs ⟨log', next', lock', s.ws.set i w'⟩ := by
  refine forall_set (Q := fun m (wm : W) => ∃ done, progs[m]? = some (done ++ wm.prog))
    (fun m wm _ hm => hS m wm hm) ?_
  obtain ⟨done, hd⟩ := hS i w hw
  obtain ⟨pre, hpre⟩ := h.suffix
  exact ⟨done ++ pre, by rw [hd, hpre, List.append_assoc]⟩

theorem suff_init (progs : List (List Op)) : Suff progs (init progs) := by
  intro i w hw
  obtain ⟨p, hp, rfl⟩ := init_ws hw
  exact ⟨[], hp⟩

/-! ### the numbering invariant -/

/-- writer `w` has not written anything for its `create σ` yet -/
def Pending (w : W) (σ : Nat) : Prop :=
  Op.create σ ∈ w.prog.tail ∨ (w.prog.head? = some (.create σ) ∧ w.pc ≤ 1)

/-- the two transient windows in which `next[σ]` lags behind the log -/
def Busy (w : W) (σ : Nat) : Prop :=
  (w.prog.head? = some (.append σ) ∧ w.pc = 2) ∨ (w.prog.head? = some (.create σ) ∧ 4 ≤ w.pc)

/-- what a writer knows about the stream it is working on / going to create -/
structure WF (log next : List (Nat × Nat)) (w : W) : Prop where
  app2 : ∀ σ, w.prog.head? = some (.append σ) → w.pc = 2 →
    count log σ = w.chosen + 1 ∧ ∀ k, lookup next σ = some k → k = w.chosen
  pend : ∀ σ, Pending w σ → count log σ = 0 ∧ lookup next σ = none
  cr2 : ∀ σ, w.prog.head? = some (.create σ) → w.pc = 2 →
    count log σ = 1 ∧ lookup next σ = none
  cr3 : ∀ σ, w.prog.head? = some (.create σ) → w.pc = 3 →
    count log σ = 1 ∧ lookup next σ = some 1
  cr4 : ∀ σ, w.prog.head? = some (.create σ) → 4 ≤ w.pc →
    count log σ = 2 ∧ lookup next σ = some 1

structure Inv (s : S) : Prop where
  valid : validLog s.log = true
  wf : ∀ (i : Nat) (w : W), s.ws[i]? = some w → WF s.log s.next w
  nmap : ∀ σ k, lookup s.next σ = some k →
    k = count s.log σ ∨ ∃ (m : Nat) (w : W), s.ws[m]? = some w ∧ Busy w σ

theorem Pending.mem {w : W} {σ : Nat} (h : Pending w σ) : Op.create σ ∈ w.prog := by
  rcases h with h | ⟨h, _⟩
  · exact List.mem_of_mem_tail h
  · exact List.mem_of_head? h

theorem pending_of_mem {w : W} {σ : Nat} (hpc : w.pc = 0) (h : Op.create σ ∈ w.prog) :
    Pending w σ := by
  obtain ⟨prog, pc, c⟩ := w
  cases prog with
  | nil => cases h
  | cons a l =>
    rcases List.mem_cons.1 h with rfl | h
    · exact Or.inr ⟨rfl, Nat.le_trans (Nat.le_of_eq hpc) (Nat.zero_le 1)⟩
    · exact Or.inl h

theorem pending_rest_append {τ c : Nat} {rest : List Op} {pc σ : Nat}
    (h : Pending { prog := .append τ :: rest, pc := pc, chosen := c } σ) : Op.create σ ∈ rest :=
  h.resolve_right fun h => nomatch h.1

theorem pending_rest_create {τ c : Nat} {rest : List Op} {pc σ : Nat} (hpc : 2 ≤ pc)
    (h : Pending { prog := .create τ :: rest, pc := pc, chosen := c } σ) : Op.create σ ∈ rest :=
  h.resolve_right fun h => Nat.not_succ_le_self 1 (Nat.le_trans hpc h.2)

theorem Busy.pc_pos {w : W} {σ : Nat} (h : Busy w σ) : 0 < w.pc := by
  rcases h with ⟨_, h⟩ | ⟨_, h⟩ <;> omega

theorem not_busy_of_pc {prog : List Op} {pc c : Nat} (h : pc < 2) (σ : Nat) :
    ¬ Busy { prog := prog, pc := pc, chosen := c } σ := by
  rintro (⟨_, h'⟩ | ⟨_, h'⟩) <;> simp only at h' <;> omega

/-! ### the invariant seen from the writer that acts

An effect of `j` happens with the mutex free or held by `j` (`Eff.mutex`), so all the others are
between operations (`idle_of_lock`). There `WF` says only that their future creations are
untouched and nobody is `Busy`: the invariant is then an assertion about every stream but the one
`j` works on (`Around`) and, for that one, a table by the pc of `j` (`Row`). -/

/-- the streams that `rest` is still going to create have no frame and no map entry -/
def Untouched (log next : List (Nat × Nat)) (rest : List Op) : Prop :=
  ∀ σ, Op.create σ ∈ rest → count log σ = 0 ∧ lookup next σ = none

theorem wf_idle {log next : List (Nat × Nat)} {w : W} (hpc : w.pc = 0) :
    WF log next w ↔ Untouched log next w.prog := by
  constructor
  · intro h σ hσ
    exact h.pend σ (pending_of_mem hpc hσ)
  · intro h
    constructor
    · exact fun σ _ h2 => nomatch hpc.symm.trans h2
    · exact fun σ hp => h σ hp.mem
    · exact fun σ _ h2 => nomatch hpc.symm.trans h2
    · exact fun σ _ h3 => nomatch hpc.symm.trans h3
    · exact fun σ _ h4 => nomatch hpc ▸ h4

def Op.stream : Op → Nat
  | .append σ => σ
  | .create σ => σ

/-- What holds of the stream of the operation in progress when it has `n` frames and map entry
`m`, by pc. A creation goes through (0, none), (1, none), (1, some 1), (2, some 1); for an append
the entry lags only at pc 2 (frame written, map not yet bumped). Outside these two lagging windows
(`Busy`) the entry, if there is one, is exact. (The last pattern is `_ + 4`, not `_`: after literals
only, a variable pattern makes the row at `n + 4` reduce through four `Nat.decEq` tests.) -/
def Row (op : Op) (pc c n : Nat) (m : Option Nat) : Prop :=
  match op, pc with
  | .append _, 2 => n = c + 1 ∧ ∀ k, m = some k → k = c
  | .append _, _ => ∀ k, m = some k → k = n
  | .create _, 0 => n = 0 ∧ m = none
  | .create _, 1 => n = 0 ∧ m = none
  | .create _, 2 => n = 1 ∧ m = none
  | .create _, 3 => n = 1 ∧ m = some 1
  | .create _, _ + 4 => n = 2 ∧ m = some 1

/-- the invariant away from stream `τ`, for writer `j` with `rest` still to do and all others
between operations -/
structure Around (log next : List (Nat × Nat)) (ws : List W) (j τ : Nat) (rest : List Op) :
    Prop where
  valid : validLog log = true
  others : ∀ (m : Nat) (wm : W), m ≠ j → ws[m]? = some wm →
    wm.pc = 0 ∧ Untouched log next wm.prog
  own : Untouched log next rest
  entries : ∀ σ k, σ ≠ τ → lookup next σ = some k → k = count log σ

section view
variable {log next : List (Nat × Nat)} {op : Op} {rest : List Op} {pc c τ : Nat}

theorem busy_stream {σ : Nat} (h : Busy ⟨op :: rest, pc, c⟩ σ) : σ = op.stream := by
  rcases h with ⟨h, _⟩ | ⟨h, _⟩ <;> cases h <;> rfl

theorem busy_append {σ : Nat} (h : Busy ⟨.append τ :: rest, pc, c⟩ σ) : pc = 2 := by
  rcases h with ⟨_, h⟩ | ⟨h, _⟩
  · exact h
  · cases h

theorem row_of_wf (hwf : WF log next ⟨op :: rest, pc, c⟩)
    (hx : ∀ k, lookup next op.stream = some k →
      k = count log op.stream ∨ Busy ⟨op :: rest, pc, c⟩ op.stream) :
    Row op pc c (count log op.stream) (lookup next op.stream) := by
  cases op with
  | append τ =>
    have hx' : pc ≠ 2 → ∀ k, lookup next τ = some k → k = count log τ :=
      fun hpc k hk => (hx k hk).resolve_right fun hb => hpc (busy_append hb)
    rcases pc with _ | _ | _ | n
    · exact hx' (by decide)
    · exact hx' (by decide)
    · exact hwf.app2 τ rfl rfl
    · exact hx' nofun
  | create τ =>
    rcases pc with _ | _ | _ | _ | n
    · exact hwf.pend τ (Or.inr ⟨rfl, Nat.zero_le 1⟩)
    · exact hwf.pend τ (Or.inr ⟨rfl, Nat.le_refl 1⟩)
    · exact hwf.cr2 τ rfl rfl
    · exact hwf.cr3 τ rfl rfl
    · exact hwf.cr4 τ rfl (Nat.le_add_left 4 n)

theorem wf_of_row (hu : Untouched log next rest)
    (hr : Row op pc c (count log op.stream) (lookup next op.stream)) :
    WF log next ⟨op :: rest, pc, c⟩ := by
  -- in each field `cases hh` makes `op` the operation the field speaks of, and the row reduces
  constructor
  case app2 | cr2 | cr3 =>
    intro σ hh hpc
    cases hh
    cases hpc
    exact hr
  case pend =>
    rintro σ (hp | ⟨hh, hpc⟩)
    · exact hu σ hp
    · cases hh
      rcases Nat.le_one_iff_eq_zero_or_eq_one.1 hpc with rfl | rfl
      · exact hr
      · exact hr
  case cr4 =>
    intro σ hh hpc
    cases hh
    obtain ⟨n, rfl⟩ := Nat.exists_eq_add_of_le' hpc
    exact hr

theorem exact_or_busy_of_row {n : Nat} {m : Option Nat} (hr : Row op pc c n m) {k : Nat}
    (hk : m = some k) : k = n ∨ Busy ⟨op :: rest, pc, c⟩ op.stream := by
  cases op with
  | append τ =>
    rcases pc with _ | _ | _ | n
    · exact Or.inl (hr k hk)
    · exact Or.inl (hr k hk)
    · exact Or.inr (Or.inl ⟨rfl, rfl⟩)
    · exact Or.inl (hr k hk)
  | create τ =>
    rcases pc with _ | _ | _ | _ | n
    · exact absurd (hk.symm.trans hr.2) (Option.some_ne_none k)
    · exact absurd (hk.symm.trans hr.2) (Option.some_ne_none k)
    · exact absurd (hk.symm.trans hr.2) (Option.some_ne_none k)
    · exact Or.inl ((Option.some.inj (hk.symm.trans hr.2)).trans hr.1.symm)
    · exact Or.inr (Or.inr ⟨rfl, Nat.le_add_left 4 n⟩)

end view

section around
variable {s : S} {j : Nat} {wj : W} {log next : List (Nat × Nat)} {lock : Option Nat} {op : Op}
  {rest : List Op} {pc c τ : Nat}

theorem around_of_inv (hI : Inv s) (hid : OthersIdle s j) (hj : s.ws[j]? = some ⟨op :: rest, pc, c⟩) :
    Around s.log s.next s.ws j op.stream rest ∧
      Row op pc c (count s.log op.stream) (lookup s.next op.stream) := by
  have hwf := hI.wf j _ hj
  -- a `Busy` writer is past pc 0, so it is `j`
  have hx : ∀ σ k, lookup s.next σ = some k →
      k = count s.log σ ∨ Busy ⟨op :: rest, pc, c⟩ σ := by
    intro σ k hk
    refine (hI.nmap σ k hk).imp_right ?_
    rintro ⟨m, wm, hm, hb⟩
    by_cases hmj : m = j
    · subst hmj
      cases hm.symm.trans hj
      exact hb
    · exact absurd (hid m wm hmj hm) (Nat.ne_of_gt hb.pc_pos)
  exact ⟨⟨hI.valid,
    fun m wm hne hm => ⟨hid m wm hne hm, (wf_idle (hid m wm hne hm)).1 (hI.wf m wm hm)⟩,
    fun σ hσ => hwf.pend σ (Or.inl hσ),
    fun σ k hσ hk => (hx σ k hk).resolve_right fun hb => hσ (busy_stream hb)⟩,
    row_of_wf hwf (hx _)⟩

theorem inv_quiet {ws : List W} (hv : validLog log = true)
    (hu : ∀ (m : Nat) (wm : W), ws[m]? = some wm → wm.pc = 0 ∧ Untouched log next wm.prog)
    (hx : ∀ σ k, lookup next σ = some k → k = count log σ) : Inv ⟨log, next, lock, ws⟩ :=
  ⟨hv, fun m wm hm => (wf_idle (hu m wm hm).1).2 (hu m wm hm).2, fun σ k hk => Or.inl (hx σ k hk)⟩

namespace Around

/-- `j` goes on with its operation -/
theorem toInv (hA : Around log next s.ws j op.stream rest) (hj : s.ws[j]? = some wj)
    (hr : Row op pc c (count log op.stream) (lookup next op.stream)) :
    Inv ⟨log, next, lock, s.ws.set j ⟨op :: rest, pc, c⟩⟩ := by
  refine ⟨hA.valid, forall_set (Q := fun _ wm => WF log next wm) ?_ (wf_of_row hA.own hr), ?_⟩
  · intro m wm hne hm
    exact (wf_idle (hA.others m wm hne hm).1).2 (hA.others m wm hne hm).2
  · intro σ k hk
    by_cases hσ : σ = op.stream
    · subst hσ
      exact (exact_or_busy_of_row hr hk).imp_right fun hb => ⟨j, _, getElem?_set_self_of_some _ hj, hb⟩
    · exact Or.inl (hA.entries σ k hσ hk)

/-- `j` has finished its operation, leaving the entry of `τ` exact -/
theorem toInv_done (hA : Around log next s.ws j τ rest)
    (hx : ∀ k, lookup next τ = some k → k = count log τ) :
    Inv ⟨log, next, lock, s.ws.set j ⟨rest, 0, 0⟩⟩ := by
  refine inv_quiet hA.valid
    (forall_set (Q := fun _ (wm : W) => wm.pc = 0 ∧ Untouched log next wm.prog) hA.others
      ⟨rfl, hA.own⟩) ?_
  intro σ k hk
  by_cases hσ : σ = τ
  · subst hσ
    exact hx k hk
  · exact hA.entries σ k hσ hk

variable {log' next' : List (Nat × Nat)} {ws : List W}

/-- nobody but `j` in its present operation is going to create `τ` -/
def Free (ws : List W) (j τ : Nat) (rest : List Op) : Prop :=
  (∀ (m : Nat) (wm : W), m ≠ j → ws[m]? = some wm → Op.create τ ∉ wm.prog) ∧ Op.create τ ∉ rest

/-- a change of the log and the map at `τ` only -/
theorem touch (hA : Around log next ws j τ rest) (hfree : Free ws j τ rest)
    (hv : validLog log' = true)
    (hoff : ∀ σ, σ ≠ τ → count log' σ = count log σ ∧ lookup next' σ = lookup next σ) :
    Around log' next' ws j τ rest := by
  have hu : ∀ {R : List Op}, Untouched log next R → Op.create τ ∉ R → Untouched log' next' R := by
    intro R h hτ σ hσ
    obtain ⟨h1, h2⟩ := hoff σ (fun e => hτ (e ▸ hσ))
    rw [h1, h2]
    exact h σ hσ
  refine ⟨hv, fun m wm hne hm => ?_, hu hA.own hfree.2, fun σ k hσ hk => ?_⟩
  · exact ⟨(hA.others m wm hne hm).1, hu (hA.others m wm hne hm).2 (hfree.1 m wm hne hm)⟩
  · obtain ⟨h1, h2⟩ := hoff σ hσ
    exact h1 ▸ hA.entries σ k hσ (h2 ▸ hk)

protected theorem append (hA : Around log next ws j τ rest) (hfree : Free ws j τ rest) {k : Nat}
    (hk : k = count log τ) : Around (log ++ [(τ, k)]) next ws j τ rest :=
  hA.touch hfree (by simp [validLog_snoc, hA.valid, hk]) fun _ hσ => ⟨count_snoc_ne _ _ hσ, rfl⟩

protected theorem setNext (hA : Around log next ws j τ rest) (hfree : Free ws j τ rest) (v : Nat) :
    Around log (setNext next τ v) ws j τ rest :=
  hA.touch hfree hA.valid fun _ hσ => ⟨rfl, lookup_setNext_ne _ _ hσ⟩

end Around
end around

/-! ### consequences of `FreshIds` on the static programs

`Nodup (created progs)` is read on the operations themselves (`pairwise_filterMap`,
`pairwise_flatten`): two operations that create a stream stand neither in one program nor in two.
In the proofs each `σ rfl` instantiates "`b` is among what `a` yields" of `pairwise_filterMap` at
`create σ`, which yields `σ`. -/

theorem create_unique_lt {progs : List (List Op)} (h : (created progs).Nodup) {i j : Nat}
    {p q : List Op} {σ : Nat} (hi : progs[i]? = some p) (hj : progs[j]? = some q)
    (hp : Op.create σ ∈ p) (hq : Op.create σ ∈ q) (hij : i < j) : False := by
  rw [created, List.Nodup, List.pairwise_filterMap, List.pairwise_flatten] at h
  obtain ⟨hi', rfl⟩ := List.getElem?_eq_some_iff.1 hi
  obtain ⟨hj', rfl⟩ := List.getElem?_eq_some_iff.1 hj
  exact List.pairwise_iff_getElem.1 h.2 i j hi' hj' hij _ hp _ hq σ rfl σ rfl rfl

theorem create_unique {progs : List (List Op)} (h : (created progs).Nodup) {i j : Nat}
    {p q : List Op} {σ : Nat} (hi : progs[i]? = some p) (hj : progs[j]? = some q)
    (hp : Op.create σ ∈ p) (hq : Op.create σ ∈ q) : i = j :=
  Nat.le_antisymm (Nat.not_lt.1 (create_unique_lt h hj hi hq hp))
    (Nat.not_lt.1 (create_unique_lt h hi hj hp hq))

theorem create_once {progs : List (List Op)} (h : (created progs).Nodup) {i : Nat}
    {a b : List Op} {σ : Nat} (hi : progs[i]? = some (a ++ Op.create σ :: b)) :
    Op.create σ ∉ b := by
  rw [created, List.Nodup, List.pairwise_filterMap, List.pairwise_flatten] at h
  have h1 := (List.pairwise_append.1 (h.1 _ (List.mem_of_getElem? hi))).2.1
  exact fun hb => List.rel_of_pairwise_cons h1 hb σ rfl σ rfl rfl

theorem mem_created {progs : List (List Op)} {i : Nat} {p : List Op} {σ : Nat}
    (hi : progs[i]? = some p) (hp : Op.create σ ∈ p) : σ ∈ created progs :=
  List.mem_filterMap.2 ⟨_, List.mem_flatten.2 ⟨p, List.mem_of_getElem? hi, hp⟩, rfl⟩

/-! ### what `FreshIds` says about who creates a stream -/

section fresh
variable {known : Nat → Bool} {progs : List (List Op)} {s : S} {j : Nat} {τ pc c : Nat} {op : Op}
  {rest : List Op}

/-- a stream that already has a frame, a map entry, or is known, is not among the creations still
to come -/
theorem free_written {τ' : Nat} (hF : FreshIds known progs) (hS : Suff progs s)
    (hA : Around s.log s.next s.ws j τ' rest) (hj : s.ws[j]? = some ⟨op :: rest, pc, c⟩)
    (hwr : ¬ (count s.log τ = 0 ∧ lookup s.next τ = none ∧ known τ = false)) :
    Around.Free s.ws j τ rest := by
  have hkn : ∀ (m : Nat) (wm : W), s.ws[m]? = some wm → Op.create τ ∈ wm.prog →
      known τ = false := by
    intro m wm hm hmem
    obtain ⟨dm, hpm⟩ := hS m wm hm
    exact hF.2 τ (mem_created hpm (List.mem_append_right _ hmem))
  constructor
  · intro m wm hne hm hmem
    obtain ⟨h1, h2⟩ := (hA.others m wm hne hm).2 τ hmem
    exact hwr ⟨h1, h2, hkn m wm hm hmem⟩
  · intro hmem
    obtain ⟨h1, h2⟩ := hA.own τ hmem
    exact hwr ⟨h1, h2, hkn j _ hj (List.mem_cons_of_mem _ hmem)⟩

/-- the stream `j` is creating is created by nobody else and not again by `j` -/
theorem free_creating (hF : FreshIds known progs) (hS : Suff progs s)
    (hj : s.ws[j]? = some ⟨.create τ :: rest, pc, c⟩) : Around.Free s.ws j τ rest := by
  obtain ⟨dj, hpj⟩ := hS j _ hj
  constructor
  · intro m wm hne hm hmem
    obtain ⟨dm, hpm⟩ := hS m wm hm
    exact hne (create_unique hF.1 hpm hpj (List.mem_append_right _ hmem)
      (List.mem_append_right _ List.mem_cons_self))
  · exact create_once hF.1 hpj

end fresh

/-! ### every effect preserves the invariant -/

theorem exact_setNext {log next : List (Nat × Nat)} {τ v : Nat}
    (hv : count log τ = v) {k : Nat} (hk : lookup (setNext next τ v) τ = some k) :
    k = count log τ :=
  (Option.some.inj (hk.symm.trans (lookup_setNext_self next τ v))).trans hv.symm

theorem inv_eff {known : Nat → Bool} {progs : List (List Op)} {s : S} {i : Nat} {w w' : W}
    {log' next' : List (Nat × Nat)} {lock' : Option Nat}
    (hF : FreshIds known progs) (hS : Suff progs s) (hL : LockInv s) (hI : Inv s)
    (hw : s.ws[i]? = some w) (h : Eff known i s w log' next' lock' w') :
    Inv ⟨log', next', lock', s.ws.set i w'⟩ := by
  have hid : OthersIdle s i := idle_of_lock hL (h.mutex (hL i w hw)).1
  -- in each case: the view of `i` before, the change at its own stream, the row of its new pc
  induction h with
  | @lock op rest c =>
    obtain ⟨hA, hr⟩ := around_of_inv hI hid hw
    -- for either kind of operation the rows at pc 0 and pc 1 are the same proposition
    exact hA.toInv hw (by cases op <;> exact hr)
  | @choose τ c rest k hk hwr =>
    obtain ⟨hA, hr⟩ := around_of_inv hI hid hw
    obtain rfl : k = count s.log τ := hk.elim (hr k) And.right
    exact (hA.append (free_written hF hS hA hw hwr) rfl).toInv hw ⟨count_snoc_self _ _ _, hr⟩
  | fail | unlock =>
    obtain ⟨hA, hr⟩ := around_of_inv hI hid hw
    exact hA.toInv_done hr
  | @bump τ c rest =>
    obtain ⟨hA, (hn : count s.log τ = c + 1), _⟩ := around_of_inv hI hid hw
    have hfree := free_written hF hS hA hw fun h => Nat.succ_ne_zero c (hn.symm.trans h.1)
    exact (hA.setNext hfree (c + 1)).toInv hw fun k => exact_setNext hn
  | @frame0 τ c rest | @frame1 τ c rest =>
    obtain ⟨hA, hn, hm⟩ := around_of_inv hI hid hw
    refine (hA.append (free_creating hF hS hw) hn.symm).toInv hw ⟨?_, hm⟩
    rw [count_snoc_self, hn]
  | @map1 τ c rest =>
    obtain ⟨hA, hn, _⟩ := around_of_inv hI hid hw
    exact (hA.setNext (free_creating hF hS hw) 1).toInv hw ⟨hn, lookup_setNext_self _ _ _⟩
  | @map2 τ pc c rest =>
    obtain ⟨hA, hn, _⟩ := around_of_inv hI hid hw
    exact (hA.setNext (free_creating hF hS hw) 2).toInv_done fun k => exact_setNext hn

theorem idle_pc {s : S} (hid : idle s = true) {i : Nat} {w : W} (hw : s.ws[i]? = some w) :
    w.pc = 0 := by
  simp only [idle, Bool.and_eq_true, List.all_eq_true, beq_iff_eq] at hid
  exact hid.2 w (List.mem_of_getElem? hw)

theorem inv_restart {s : S} (hI : Inv s) (hid : idle s = true) : Inv { s with next := [] } := by
  refine inv_quiet hI.valid (fun m wm hm => ?_) (fun σ k hk => by cases hk)
  have hpc := idle_pc hid hm
  exact ⟨hpc, fun σ hσ => ⟨((wf_idle hpc).1 (hI.wf m wm hm) σ hσ).1, lookup_nil σ⟩⟩

theorem inv_init (progs : List (List Op)) : Inv (init progs) := by
  refine inv_quiet rfl (fun m wm hm => ?_) (fun σ k hk => by cases hk)
  obtain ⟨p, _, rfl⟩ := init_ws hm
  exact ⟨rfl, fun σ _ => ⟨count_nil σ, lookup_nil σ⟩⟩

structure Good (progs : List (List Op)) (s : S) : Prop where
  lockI : LockInv s
  suff : Suff progs s
  inv : Inv s

theorem good_run (known : Nat → Bool) (progs : List (List Op)) (hF : FreshIds known progs)
    (sched : List Act) : Good progs (run true known progs sched) :=
  foldl_inv (P := Good progs)
    (fun _ a hG => act_keeps hG
      (fun hw he =>
        ⟨lockInv_eff hG.lockI hw he, suff_eff hG.suff hw he, inv_eff hF hG.suff hG.lockI hG.inv hw he⟩)
      (fun hid => ⟨hG.lockI, hG.suff, inv_restart hG.inv hid⟩) a)
    sched _ ⟨lockInv_init progs, suff_init progs, inv_init progs⟩

/-! ### every schedule -/

/-- Per-stream total order in the repaired protocol under any schedule (restarts included), given fresh
thread ids (`FreshIds`) and nothing else about who addresses which thread when: every stream's frames
carry seq 0,1,2,… in file order. -/
theorem seq_total_order (known : Nat → Bool) (progs : List (List Op)) (h : FreshIds known progs)
    (sched : List Act) : validLog (run true known progs sched).log = true :=
  (good_run known progs h sched).inv.valid

/-- the declarative reading of `seq_total_order`: every frame carries the number of earlier frames
of its stream -/
theorem seq_total_order_decl (known : Nat → Bool) (progs : List (List Op))
    (h : FreshIds known progs) (sched : List Act) (pre post : List (Nat × Nat)) (σ k : Nat)
    (hlog : (run true known progs sched).log = pre ++ (σ, k) :: post) : k = count pre σ :=
  (validLog_iff _).1 (seq_total_order known progs h sched) pre σ k post hlog

/-! ### each clause of `FreshIds` is needed (repaired protocol, sequential schedules) -/

/-- `Nodup` (a stream is created once) -/
example : validLog (run true (fun _ => false) [[.create 7], [.create 7]]
    [.step 0, .step 0, .step 0, .step 0, .step 0, .step 1, .step 1]).log = false := by decide

/-- a created stream must not be a known one: an earlier append to it is accepted -/
example : validLog (run true (fun _ => true) [[.append 7, .create 7]]
    [.step 0, .step 0, .step 0, .step 0, .step 0, .step 0]).log = false := by decide

/-- … whereas with a fresh id the early append fails and writes nothing -/
example : (run true (fun _ => false) [[.append 7, .create 7]]
    [.step 0, .step 0, .step 0, .step 0, .step 0, .step 0, .step 0]).log = [(7, 0), (7, 1)] := by
  decide

end Rip.StoreLTS
