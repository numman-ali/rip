import Rip.Model.TaskLTS
import Rip.Lemmas.Basic
/-!
C17 (lifecycle): the automaton state of the recorded trace is a function of the main task's pc and
`cancelSeen` (`PcInv`, part of `Inv`), so the statements about every schedule are projections of
`inv_run`. No reachable state is stuck: short of the end some step lowers `work`.
-/

namespace Rip.TaskLTS
open Rip.Basic

theorem autState_snoc (t : List Label) (l : Label) :
    autState (t ++ [l]) = (autState t).next l := List.foldl_append

theorem aut_emit {t : List Label} {a a' : A} {l : Label} (ha : autState t = a) (hn : a.next l = a') :
    autState (t ++ [l]) = a' := by
  rw [autState_snoc, ha, hn]

/-! ### the invariant -/

/-- what the program counter of the main task says about the automaton state of the trace -/
def PcInv (s : S) : Prop :=
  (s.pc = 0 ∧ s.started = false ∧ s.cancelSeen = false ∧ autState s.trace = .start) ∨
  (s.pc = 1 ∧ s.started = false ∧ s.cancelSeen = false ∧ autState s.trace = .spawned) ∨
  (s.pc = 2 ∧ s.started = true ∧ s.cancelSeen = false ∧ autState s.trace = .running) ∨
  (s.pc = 3 ∧ s.started = true ∧
    autState s.trace = (if s.cancelSeen then A.cancelling else A.running)) ∨
  (s.pc = 4 ∧ s.started = true ∧ s.outDone = true ∧ s.errDone = true ∧
    autState s.trace = (if s.cancelSeen then A.cancelling else A.running)) ∨
  (s.pc = 5 ∧ s.started = true ∧ s.outDone = true ∧ s.errDone = true ∧
    autState s.trace = (if s.cancelSeen then A.cancelledEmitted else A.running)) ∨
  (s.pc = 9 ∧ autState s.trace = .terminal ∧
    (s.started = true → s.outDone = true ∧ s.errDone = true))

structure Inv (s : S) : Prop where
  outL : s.outDone = true → s.outLeft = 0
  errL : s.errDone = true → s.errLeft = 0
  seenSent : s.cancelSeen = true → s.cancelSent = true
  stC : Label.stCancelled ∈ s.trace → s.cancelSeen = true
  pcInv : PcInv s

theorem PcInv.at0 {s : S} (hp : s.pc = 0) (hs : s.started = false) (hc : s.cancelSeen = false)
    (ha : autState s.trace = .start) : PcInv s := .inl ⟨hp, hs, hc, ha⟩

theorem PcInv.at1 {s : S} (hp : s.pc = 1) (hs : s.started = false) (hc : s.cancelSeen = false)
    (ha : autState s.trace = .spawned) : PcInv s := .inr (.inl ⟨hp, hs, hc, ha⟩)

theorem PcInv.at2 {s : S} (hp : s.pc = 2) (hs : s.started = true) (hc : s.cancelSeen = false)
    (ha : autState s.trace = .running) : PcInv s := .inr (.inr (.inl ⟨hp, hs, hc, ha⟩))

theorem PcInv.at3 {s : S} (hp : s.pc = 3) (hs : s.started = true)
    (ha : autState s.trace = (if s.cancelSeen then A.cancelling else A.running)) : PcInv s :=
  .inr (.inr (.inr (.inl ⟨hp, hs, ha⟩)))

theorem PcInv.at4 {s : S} (hp : s.pc = 4) (hs : s.started = true) (ho : s.outDone = true)
    (he : s.errDone = true)
    (ha : autState s.trace = (if s.cancelSeen then A.cancelling else A.running)) : PcInv s :=
  .inr (.inr (.inr (.inr (.inl ⟨hp, hs, ho, he, ha⟩))))

theorem PcInv.at5 {s : S} (hp : s.pc = 5) (hs : s.started = true) (ho : s.outDone = true)
    (he : s.errDone = true)
    (ha : autState s.trace = (if s.cancelSeen then A.cancelledEmitted else A.running)) : PcInv s :=
  .inr (.inr (.inr (.inr (.inr (.inl ⟨hp, hs, ho, he, ha⟩)))))

theorem PcInv.at9 {s : S} (hp : s.pc = 9) (ha : autState s.trace = .terminal)
    (hd : s.started = true → s.outDone = true ∧ s.errDone = true) : PcInv s :=
  .inr (.inr (.inr (.inr (.inr (.inr ⟨hp, ha, hd⟩)))))

theorem PcInv.done {s : S} (h : PcInv s) (hp : s.pc = 9) :
    autState s.trace = .terminal ∧ (s.started = true → s.outDone = true ∧ s.errDone = true) := by
  rcases h with h | h | h | h | h | h | h
  case inr.inr.inr.inr.inr.inr => exact h.2  -- the last disjunct: pc 9
  all_goals exact absurd (h.1.symm.trans hp) (by decide)

theorem PcInv.ne_reject {s : S} (h : PcInv s) : autState s.trace ≠ .reject := by
  rcases h with ⟨_, _, _, h⟩ | ⟨_, _, _, h⟩ | ⟨_, _, _, h⟩ | ⟨_, _, h⟩ | ⟨_, _, _, _, h⟩ |
    ⟨_, _, _, _, h⟩ | ⟨_, h, _⟩
  all_goals
    rw [h]
    cases s.cancelSeen <;> decide

theorem inv_init (c : Cfg) : Inv (init c) :=
  ⟨fun h => Bool.noConfusion h, fun h => Bool.noConfusion h, fun h => Bool.noConfusion h,
    fun h => (nomatch h), PcInv.at0 rfl rfl rfl rfl⟩

theorem stC_emit {t : List Label} {l : Label} {seen : Bool}
    (h : Label.stCancelled ∈ t → seen = true) (hl : l = .stCancelled → seen = true) :
    Label.stCancelled ∈ t ++ [l] → seen = true := by
  intro hm
  rcases List.mem_append.mp hm with hm | hm
  · exact h hm
  · exact hl (List.mem_singleton.mp hm).symm

/-- a pump emits a chunk: the pumps run only between `running` and the join, where `delta` is a
self-loop of the automaton -/
theorem Inv.delta {s : S} (h : Inv s) (hs : s.started = true)
    (hd : s.outDone = false ∨ s.errDone = false) {ol el : Nat}
    (ho : s.outDone = true → ol = 0) (he : s.errDone = true → el = 0) :
    Inv { emit s .delta with outLeft := ol, errLeft := el } := by
  refine ⟨ho, he, h.seenSent, stC_emit h.stC (fun hl => by cases hl), ?_⟩
  have busy : ¬ (s.outDone = true ∧ s.errDone = true) := fun ⟨a, b⟩ => by
    rcases hd with hd | hd
    · cases a.symm.trans hd
    · cases b.symm.trans hd
  rcases h.pcInv with ⟨_, hs', _⟩ | ⟨_, hs', _⟩ | ⟨hp, _, hc, ha⟩ | ⟨hp, _, ha⟩ |
    ⟨_, _, ho, he, _⟩ | ⟨_, _, ho, he, _⟩ | ⟨_, _, hd'⟩
  · cases hs'.symm.trans hs
  · cases hs'.symm.trans hs
  · exact PcInv.at2 hp hs hc (aut_emit ha rfl)
  · refine PcInv.at3 hp hs (aut_emit ha ?_)
    show (if s.cancelSeen = true then A.cancelling else A.running).next .delta =
      if s.cancelSeen = true then A.cancelling else A.running
    cases s.cancelSeen <;> rfl
  · exact absurd ⟨ho, he⟩ busy
  · exact absurd ⟨ho, he⟩ busy
  · exact absurd (hd' hs) busy

/-- a pump finishes: `PcInv` only ever asks for the pumps to be done -/
theorem Inv.pumpDone {s : S} (h : Inv s) {od ed : Bool}
    (ho : s.outDone = true → od = true) (he : s.errDone = true → ed = true)
    (hol : od = true → s.outLeft = 0) (hel : ed = true → s.errLeft = 0) :
    Inv { s with outDone := od, errDone := ed } := by
  refine ⟨hol, hel, h.seenSent, h.stC, ?_⟩
  rcases h.pcInv with ⟨hp, hs, hc, ha⟩ | ⟨hp, hs, hc, ha⟩ | ⟨hp, hs, hc, ha⟩ | ⟨hp, hs, ha⟩ |
    ⟨hp, hs, hod, hed, ha⟩ | ⟨hp, hs, hod, hed, ha⟩ | ⟨hp, ha, hd⟩
  · exact PcInv.at0 hp hs hc ha
  · exact PcInv.at1 hp hs hc ha
  · exact PcInv.at2 hp hs hc ha
  · exact PcInv.at3 hp hs ha
  · exact PcInv.at4 hp hs (ho hod) (he hed) ha
  · exact PcInv.at5 hp hs (ho hod) (he hed) ha
  · exact PcInv.at9 hp ha fun hs => ⟨ho (hd hs).1, he (hd hs).2⟩

/-- the main task touches `pc`, `started` and the trace only, so three fields of the invariant are
literally the old ones (`keep`, which also lets each leaf evaluate `step` once); the automaton step
is one row of `A.next` -/
theorem inv_step_main (c : Cfg) (s : S) (h : Inv s) : Inv (step c s .main) := by
  obtain ⟨pc, started, outLeft, errLeft, outDone, errDone, cancelSent, cancelSeen, trace⟩ := s
  obtain ⟨failEarly, waitFails, nOut, nErr⟩ := c
  obtain ⟨h1, h2, h3, h4, h5⟩ := h
  have keep : ∀ {p' st' tr'}, (Label.stCancelled ∈ tr' → cancelSeen = true) →
      PcInv ⟨p', st', outLeft, errLeft, outDone, errDone, cancelSent, cancelSeen, tr'⟩ →
      Inv ⟨p', st', outLeft, errLeft, outDone, errDone, cancelSent, cancelSeen, tr'⟩ :=
    fun h4' h5' => ⟨h1, h2, h3, h4', h5'⟩
  obtain ⟨rfl, hs, hc, ha⟩ | ⟨rfl, hs, hc, ha⟩ | ⟨rfl, hs, rfl, ha⟩ | ⟨rfl, hs, ha⟩ |
    ⟨rfl, hs, ho, he, ha⟩ | ⟨rfl, hs, ho, he, ha⟩ | ⟨rfl, ha, hd⟩ := h5
  · exact keep (stC_emit h4 nofun) (PcInv.at1 rfl hs hc (aut_emit ha rfl))
  · cases failEarly
    · exact keep (stC_emit h4 nofun) (PcInv.at2 rfl rfl hc (aut_emit ha rfl))
    · exact keep (stC_emit h4 nofun)
        (PcInv.at9 rfl (aut_emit ha rfl) fun hs' => by cases hs.symm.trans hs')
  · exact keep h4 (PcInv.at3 rfl hs ha)
  · cases outDone
    · exact keep h4 (PcInv.at3 rfl hs ha)
    cases errDone
    · exact keep h4 (PcInv.at3 rfl hs ha)
    exact keep h4 (PcInv.at4 rfl hs rfl rfl ha)
  · cases cancelSeen
    · exact keep h4 (PcInv.at5 rfl hs ho he ha)
    · exact keep (stC_emit h4 fun _ => rfl) (PcInv.at5 rfl hs ho he (aut_emit ha rfl))
  · -- the terminal status: failed or exited without, failed or cancelled with a cancellation
    cases cancelSeen
    · cases waitFails <;>
        exact keep (stC_emit h4 nofun) (PcInv.at9 rfl (aut_emit ha rfl) fun _ => ⟨ho, he⟩)
    · cases waitFails <;>
        exact keep (stC_emit h4 fun _ => rfl) (PcInv.at9 rfl (aut_emit ha rfl) fun _ => ⟨ho, he⟩)
  · exact keep h4 (PcInv.at9 rfl ha hd)

theorem inv_step (c : Cfg) (s : S) (a : Actor) (h : Inv s) : Inv (step c s a) := by
  by_cases hm : a = .main
  · rw [hm]
    exact inv_step_main c s h
  fun_cases step c s a with
  -- the client sets the request flag
  | case1 => exact ⟨h.outL, h.errL, fun _ => rfl, h.stC, h.pcInv⟩
  -- the stdout pump emits a chunk, finishes, is not running
  | case2 hg =>
    rw [Bool.and_eq_true, Bool.not_eq_true'] at hg
    exact h.delta hg.1 (.inl hg.2) (fun hd => by cases hg.2.symm.trans hd) h.errL
  | case3 _ hl => exact h.pumpDone (fun _ => rfl) id (fun _ => Nat.eq_zero_of_not_pos hl) h.errL
  | case4 => exact h
  -- the stderr pump likewise
  | case5 hg =>
    rw [Bool.and_eq_true, Bool.not_eq_true'] at hg
    exact h.delta hg.1 (.inr hg.2) h.outL (fun hd => by cases hg.2.symm.trans hd)
  | case6 _ hl => exact h.pumpDone id (fun _ => rfl) h.outL (fun _ => Nat.eq_zero_of_not_pos hl)
  | case7 => exact h
  -- the cancel signal wins the select, or is not enabled
  | case8 hg =>
    rw [Bool.and_eq_true, decide_eq_true_eq] at hg
    rcases h.pcInv with ⟨hp, _⟩ | ⟨hp, _⟩ | ⟨_, hs, _, ha⟩ | ⟨hp, _⟩ | ⟨hp, _⟩ | ⟨hp, _⟩ | ⟨hp, _⟩
    case inr.inr.inl =>  -- the third disjunct: pc 2, where the guard `hg` puts the main task
      exact ⟨h.outL, h.errL, fun _ => hg.2, fun _ => rfl, PcInv.at3 rfl hs (aut_emit ha rfl)⟩
    all_goals exact absurd (hp.symm.trans hg.1) (by decide)
  | case9 => exact h
  -- the main task's branches
  | _ => exact absurd rfl hm

theorem inv_run (c : Cfg) (sched : List Actor) : Inv (run c sched) :=
  foldl_inv (inv_step c) sched (init c) (inv_init c)

theorem run_append (c : Cfg) (s₁ s₂ : List Actor) :
    run c (s₁ ++ s₂) = s₂.foldl (step c) (run c s₁) := List.foldl_append

/-! ### safety -/

/-- under EVERY schedule (any interleaving of the main task, both pumps and the client, of any
length) the recorded stream is a well-formed prefix of a task lifecycle -/
theorem lifecycle_prefix (c : Cfg) (sched : List Actor) : prefixOK (run c sched).trace = true :=
  bne_iff_ne.mpr (inv_run c sched).pcInv.ne_reject

/-- and once the main task has finished it is a complete lifecycle: spawn frame first, running at
most once, exactly one terminal status and it is last, cancel request before cancelled -/
theorem lifecycle_complete (c : Cfg) (sched : List Actor) (h : (run c sched).pc = 9) :
    lifecycleOK (run c sched).trace = true :=
  beq_iff_eq.mpr ((inv_run c sched).pcInv.done h).1

theorem step_done (c : Cfg) (s : S) (a : Actor) (hi : Inv s) (h : s.pc = 9) :
    step c s a = { s with cancelSent := Actor.client == a || s.cancelSent } := by
  have hd := (hi.pcInv.done h).2
  obtain ⟨pc, started, outLeft, errLeft, outDone, errDone, cancelSent, cancelSeen, trace⟩ := s
  cases h
  -- with the pumps not started, or started and done, every guard computes to false
  cases started
  · cases a <;> rfl
  · obtain ⟨rfl, rfl⟩ := hd rfl
    cases a <;> rfl

theorem nothing_after_terminal (c : Cfg) (sched more : List Actor) (h : (run c sched).pc = 9) :
    (run c (sched ++ more)).trace = (run c sched).trace := by
  rw [run_append]
  have key := foldl_inv (f := step c)
    (P := fun s => Inv s ∧ s.pc = 9 ∧ s.trace = (run c sched).trace)
    (fun s a ⟨hi, hp, ht⟩ =>
      have e := step_done c s a hi hp
      ⟨inv_step c s a hi, (congrArg S.pc e).trans hp, (congrArg S.trace e).trans ht⟩)
    more (run c sched) ⟨inv_run c sched, h, rfl⟩
  exact key.2.2

/-- every output chunk is emitted before the terminal status: when the main task has finished,
both pumps have drained (or never started) -/
theorem pumps_joined (c : Cfg) (sched : List Actor) (h : (run c sched).pc = 9) :
    let s := run c sched
    s.started = true → s.outDone = true ∧ s.errDone = true ∧ s.outLeft = 0 ∧ s.errLeft = 0 := by
  intro s hs
  have hi : Inv s := inv_run c sched
  obtain ⟨hd1, hd2⟩ := (hi.pcInv.done h).2 hs
  exact ⟨hd1, hd2, hi.outL hd1, hi.errL hd2⟩

theorem step_cancelSent (c : Cfg) (s : S) (a : Actor) :
    (step c s a).cancelSent = (Actor.client == a || s.cancelSent) := by
  -- the client's step sets the flag, no branch of the other four actors writes it
  fun_cases step c s a <;> rfl

theorem cancelSent_iff (c : Cfg) (sched : List Actor) :
    (run c sched).cancelSent = true ↔ Actor.client ∈ sched := by
  have key : ∀ s : S,
      (sched.foldl (step c) s).cancelSent = (s.cancelSent || sched.contains .client) := by
    induction sched with
    | nil => exact fun s => (Bool.or_false _).symm
    | cons a rest ih =>
      intro s
      rw [List.foldl_cons, ih, step_cancelSent, List.contains_cons, Bool.or_assoc, Bool.or_left_comm]
  rw [run, key]
  exact List.contains_iff_mem

theorem cancelled_only_if_requested (c : Cfg) (sched : List Actor)
    (h : Label.stCancelled ∈ (run c sched).trace) : Actor.client ∈ sched := by
  have hi := inv_run c sched
  exact (cancelSent_iff c sched).mp (hi.seenSent (hi.stC h))

/-! ### progress -/

/-- a bound on the steps still to take, lowered by every step that is not blocked: the distance of the
main task's pc from 9 and, per pump, one per chunk left and one to finish -/
def work (s : S) : Nat :=
  (9 - s.pc) + (if s.outDone then 0 else s.outLeft + 1) + (if s.errDone then 0 else s.errLeft + 1)

theorem exists_lower (c : Cfg) (s : S) (h : Inv s) (hn : ¬ s.pc = 9) :
    ∃ a, work (step c s a) < work s := by
  obtain ⟨pc, started, outLeft, errLeft, outDone, errDone, cancelSent, cancelSeen, trace⟩ := s
  obtain ⟨failEarly, waitFails, nOut, nErr⟩ := c
  -- the flags a step branches on are split first, so that at each leaf `step` computes and lowers one
  -- summand. `main` says which fields the main task leaves alone: a leaf then evaluates `step` once,
  -- not once per summand.
  have main : ∀ {p' st' tr'}, pc < p' ∧ p' ≤ 9 →
      work ⟨p', st', outLeft, errLeft, outDone, errDone, cancelSent, cancelSeen, tr'⟩ <
        work ⟨pc, started, outLeft, errLeft, outDone, errDone, cancelSent, cancelSeen, trace⟩ :=
    fun h => Nat.add_lt_add_right
      (Nat.add_lt_add_right (Nat.sub_lt_sub_left (Nat.lt_of_lt_of_le h.1 h.2) h.1) _) _
  have out : ∀ {p w e : Nat}, p + w + e < p + (w + 1) + e :=
    Nat.add_lt_add_right (Nat.add_lt_add_left (Nat.lt_succ_self _) _) _
  have err : ∀ {p w e : Nat}, p + w + e < p + w + (e + 1) :=
    Nat.add_lt_add_left (Nat.lt_succ_self _) _
  obtain ⟨rfl, -⟩ | ⟨rfl, -⟩ | ⟨rfl, -⟩ | ⟨rfl, rfl, -⟩ | ⟨rfl, -⟩ | ⟨rfl, -⟩ | ⟨rfl, -⟩ := h.pcInv
  · exact ⟨.main, main (by decide)⟩
  · cases failEarly <;> exact ⟨.main, main (by decide)⟩
  · exact ⟨.main, main (by decide)⟩
  · -- the join: a started pump that has not finished takes a step, else the main task moves on
    cases outDone
    · cases outLeft <;> exact ⟨.out, out⟩
    cases errDone
    · cases errLeft <;> exact ⟨.err, err⟩
    exact ⟨.main, main (by decide)⟩
  · cases cancelSeen <;> exact ⟨.main, main (by decide)⟩
  · cases waitFails <;> cases cancelSeen <;> exact ⟨.main, main (by decide)⟩
  · exact absurd rfl hn

/-- no reachable state is stuck: every schedule extends to one that completes the task -/
theorem can_complete_from (c : Cfg) (sched : List Actor) :
    ∃ more, (run c (sched ++ more)).pc = 9 := by
  obtain ⟨more, h⟩ := exists_foldl_of_measure (f := step c) (P := Inv) (goal := fun s => s.pc = 9)
    work (inv_step c) (exists_lower c) (run c sched) (inv_run c sched)
  exact ⟨more, (congrArg S.pc (run_append c sched more)).trans h⟩

/-- some schedule completes the task, whatever the environment decides (`c`); unless `c.failEarly` the pumps have to be scheduled for it: with `.main` alone the task waits at the join,
`pc = 3` (an example among the checks below, for one `c`) -/
theorem can_complete (c : Cfg) : ∃ sched, (run c sched).pc = 9 := can_complete_from c []

/-! ### sanity (non-vacuity) checks, by kernel evaluation -/

/-- a cancelled run really is reachable and has the expected stream -/
example : (run ⟨false, false, 2, 1⟩ [.main, .main, .out, .client, .mainCancel, .out, .err, .out,
    .err, .main, .main, .main]).trace =
    [.spawned, .running, .delta, .cancelReq, .delta, .delta, .cancelled, .stCancelled] := by decide

/-- the schedule without cancellation that the examples below run (that it completes for every `c` is
not proved): spawn and fail if `c.failEarly`; else spawn, start, child exits, drain stdout, drain
stderr, join, finish -/
def completing (c : Cfg) : List Actor :=
  if c.failEarly then [.main, .main]
  else [.main, .main, .main] ++ (List.replicate (c.nOut + 1) .out ++
    (List.replicate (c.nErr + 1) .err ++ [.main, .main, .main]))

example : (run ⟨false, false, 2, 1⟩ (completing ⟨false, false, 2, 1⟩)).trace =
    [.spawned, .running, .delta, .delta, .delta, .stExited] := by decide

example : (run ⟨true, false, 2, 1⟩ (completing ⟨true, false, 2, 1⟩)).trace =
    [.spawned, .stFailed] := by decide

/-- `nothing_after_terminal` is about the TRACE: the full state may still change after the
terminal status (a late client request sets `cancelSent`), so `run c (sched ++ more) = run c sched`
would be false -/
example : run ⟨true, false, 0, 0⟩ ([.main, .main] ++ [.client]) ≠
    run ⟨true, false, 0, 0⟩ [.main, .main] := by decide

/-- without the pumps being scheduled the main task does not finish (it waits at the join) -/
example : (run ⟨false, false, 0, 0⟩ (List.replicate 10 .main)).pc = 3 := by decide

end Rip.TaskLTS
