import Rip.Model.ToolLoop
import Rip.Lemmas.Basic
/-!
C16. Collector: `drain` keeps its output a `StableSortOf` its input; on a function-call `item` event `observe` is
`observeItem` at the item id that `resolveItem` picks; what every event leaves alone is read off the branches of
`observe`. Loop: `answerCalls` answers a prefix of the calls; `loop` keeps `Inv`, whose part about the rounds written
so far is `RunOk`, and the C16 statements about runs are fields of `RunOk`.
-/
namespace Rip.ToolLoop
open Rip.Basic

/-! ### Collector: `drain` -/

/-- what `drain` maintains: a sorted rearrangement of `src` in which calls of equal index keep their order -/
structure StableSortOf (src out : List Call) : Prop where
  perm : out.Perm src
  sorted : out.Pairwise (fun a b => a.outputIndex ≤ b.outputIndex)
  stable : ∀ k, out.filter (fun y => y.outputIndex == k) = src.filter (fun y => y.outputIndex == k)

theorem insertByIndex_perm (x : Call) (l : List Call) : (insertByIndex x l).Perm (x :: l) := by
  fun_induction insertByIndex x l with
  | case1 | case2 => exact .refl _
  | case3 y ys _ ih => exact (ih.cons y).trans (.swap x y ys)

theorem StableSortOf.insert {src out : List Call} (h : StableSortOf src out) (x : Call) :
    StableSortOf (src ++ [x]) (insertByIndex x out) := by
  suffices hins : (insertByIndex x out).Pairwise (fun a b => a.outputIndex ≤ b.outputIndex) ∧
      ∀ k, (insertByIndex x out).filter (fun y => y.outputIndex == k) =
        (out ++ [x]).filter (fun y => y.outputIndex == k) from
    ⟨(insertByIndex_perm x out).trans ((h.perm.cons x).trans (List.perm_append_singleton x src).symm), hins.1,
      fun k => by rw [hins.2 k, List.filter_append, h.stable k, List.filter_append]⟩
  have hs := h.sorted
  clear h
  fun_induction insertByIndex x out with
  | case1 => exact ⟨List.pairwise_singleton _ _, fun _ => rfl⟩
  | case2 y ys hlt =>
    -- `x` goes in front: everything in `y :: ys` has a larger index
    have hgt : ∀ z ∈ y :: ys, x.outputIndex < z.outputIndex :=
      List.forall_mem_cons.mpr ⟨hlt, fun z hz => Nat.lt_of_lt_of_le hlt ((List.pairwise_cons.mp hs).1 z hz)⟩
    refine ⟨List.pairwise_cons.mpr ⟨fun z hz => Nat.le_of_lt (hgt z hz), hs⟩, fun k => ?_⟩
    rw [List.filter_append, List.filter_cons (x := x), List.filter_cons (x := x), List.filter_nil]
    cases hx : x.outputIndex == k
    · exact (List.append_nil _).symm
    · -- so none of them has the index of `x`
      rw [List.filter_eq_nil_iff.mpr fun z hz hzk => Nat.ne_of_gt (hgt z hz) ((eq_of_beq hzk).trans (eq_of_beq hx).symm)]
      rfl
  | case3 y ys hge ih =>
    obtain ⟨hy, hys⟩ := List.pairwise_cons.mp hs
    obtain ⟨ihs, ihf⟩ := ih hys
    refine ⟨List.pairwise_cons.mpr ⟨fun z hz => ?_, ihs⟩, fun k => ?_⟩
    · rcases List.mem_cons.mp ((insertByIndex_perm x ys).mem_iff.mp hz) with rfl | hz
      · exact Nat.le_of_not_lt hge
      · exact hy z hz
    · rw [List.cons_append, List.filter_cons, List.filter_cons, ihf k]

theorem drain_spec (c : Collector) : StableSortOf c.completed (drain c) :=
  foldl_hist_inv (Inv := StableSortOf) (fun _ _ x h => h.insert x) c.completed (pre := [])
    ⟨.refl _, .nil, fun _ => rfl⟩

/-! ### Collector: `observe` -/

/-- the item id under which the collector files an `item` event -/
def resolveItem (c : Collector) (iid cid : Option Str) : Str :=
  match nonEmpty iid with
  | some i => i
  | none =>
    match (nonEmpty cid).bind (fun cid => (c.itemOfCall.find? (fun e => e.1 == cid)).map (·.2)) with
    | some i => i
    | none => (nonEmpty cid).getD 0

def noteCall (c : Collector) (cid : Option Str) (itemId : Str) : List (Str × Str) :=
  match nonEmpty cid with
  | some cid => if c.itemOfCall.any (fun e => e.1 == cid) then c.itemOfCall else c.itemOfCall ++ [(cid, itemId)]
  | none => c.itemOfCall

/-- `observe` on a function-call `item` event, with the resolved item id as a parameter -/
def observeItem (c : Collector) (done : Bool) (idx : Nat) (itemId : Str) (cid n : Option Str) (a : Option Text) :
    Collector :=
  let e := getBuf c.byItem itemId
  let args := (a.filter (fun a => !a.isEmpty)).getD e.args
  if itemId == 0 then c else
  if !done then
    { c with byItem := putBuf c.byItem itemId
               { outputIndex := idx, callId := (nonEmpty cid).or e.callId, name := n.or e.name, args := args },
             itemOfCall := noteCall c cid itemId }
  else
    match cid.or e.callId, n.or e.name with
    | some cid', some n' =>
      { byItem := c.byItem.filter (fun x => x.1 != itemId), itemOfCall := noteCall c cid itemId,
        completed := c.completed ++ [{ outputIndex := idx, callId := cid', itemId := itemId, name := n', args := args }] }
    | _, _ => { c with byItem := c.byItem.filter (fun x => x.1 != itemId), itemOfCall := noteCall c cid itemId }

theorem or_nonEmpty_or (x y : Option Str) : x.or ((nonEmpty x).or y) = x.or y := by cases x <;> rfl
theorem or_or_self (x y : Option Str) : x.or (x.or y) = x.or y := by cases x <;> rfl

theorem observe_item_eq (c : Collector) (done : Bool) (idx : Nat) (iid cid n : Option Str) (a : Option Text) :
    c.observe (.item done idx true iid cid n a) = observeItem c done idx (resolveItem c iid cid) cid n a := by
  rw [Collector.observe]
  -- the item id, which `observe` computes in line, becomes a local definition whose body is that of `resolveItem`
  -- (`rw`/`simp` cannot fold it: the two `match`es are compiled to different auxiliary constants)
  extract_lets +onlyGivenNames callId itemId
  rw [show resolveItem c iid cid = itemId from rfl]
  -- the final call id and name are read from the buffer entry just rebuilt from the same raw fields
  dsimp only
  rw [or_nonEmpty_or, or_or_self]
  unfold observeItem
  cases a.filter (fun a => !a.isEmpty) <;> rfl

theorem observe_notFn (c : Collector) (done : Bool) (idx : Nat) (iid cid n : Option Str) (a : Option Text) :
    c.observe (.item done idx false iid cid n a) = c := rfl

def isDoneFn : PEv → Bool
  | .item true _ true _ _ _ _ => true
  | _ => false

theorem observe_completed (c : Collector) (e : PEv) :
    (c.observe e).completed = c.completed ∨
    (isDoneFn e = true ∧ ∃ x, (c.observe e).completed = c.completed ++ [x]) := by
  fun_cases Collector.observe c e
  -- the one branch of ten that writes `completed`; its conditions say that the event is a `done` function call
  case case4 => exact .inr ⟨by simp_all [isDoneFn], _, rfl⟩  -- `done`, call id and name present
  all_goals exact .inl rfl

theorem foldl_observe_length (evs : List PEv) :
    (evs.foldl Collector.observe {}).completed.length ≤ (evs.filter isDoneFn).length := by
  refine foldl_hist_inv (Inv := fun pre (s : Collector) => s.completed.length ≤ (pre.filter isDoneFn).length)
    (fun pre s e h => ?_) evs (pre := []) (Nat.le_refl 0)
  rw [List.filter_append, List.length_append]
  rcases observe_completed s e with he | ⟨hd, x, he⟩
  · rw [he]; exact Nat.le_trans h (Nat.le_add_right _ _)
  · rw [he, List.length_append, List.filter_cons_of_pos hd]
    exact Nat.add_le_add_right h 1

/-- the reachability invariant: the call-id → item-id table never maps to the empty item id -/
def Collector.WF (c : Collector) : Prop := ∀ e ∈ c.itemOfCall, e.2 ≠ 0

theorem nonEmpty_eq_some {o : Option Str} {i : Str} : nonEmpty o = some i ↔ o = some i ∧ i ≠ 0 :=
  Option.filter_eq_some_iff.trans (and_congr_right' bne_iff_ne)

theorem resolveItem_ne_zero (c : Collector) (hwf : c.WF) (iid cid : Option Str)
    (h : nonEmpty iid ≠ none ∨ nonEmpty cid ≠ none) : resolveItem c iid cid ≠ 0 := by
  fun_cases resolveItem c iid cid
  case case1 i hi => exact (nonEmpty_eq_some.mp hi).2
  case case2 i hf =>
    -- the table's entry for the call id, which is not the empty id
    obtain ⟨k, -, hf⟩ := Option.bind_eq_some_iff.mp hf
    obtain ⟨e, hfind, rfl⟩ := Option.map_eq_some_iff.mp hf
    exact hwf e (List.mem_of_find?_eq_some hfind)
  case case3 hi _ =>
    obtain ⟨k, hcid⟩ := Option.ne_none_iff_exists'.mp (h.resolve_left fun h' => h' hi)
    rw [hcid]
    exact (nonEmpty_eq_some.mp hcid).2

/-- `hi` is the test for an empty item id as `observe` makes it -/
theorem noteCall_wf (c : Collector) (hwf : c.WF) (cid : Option Str) (i : Str) (hi : ¬(i == 0) = true) :
    ∀ e ∈ noteCall c cid i, e.2 ≠ 0 := by
  fun_cases noteCall c cid i
  · exact hwf
  · exact List.forall_mem_append.mpr ⟨hwf, List.forall_mem_singleton.mpr (mt decide_eq_true hi)⟩
  · exact hwf

theorem observe_wf (c : Collector) (e : PEv) (hwf : c.WF) : (c.observe e).WF := by
  fun_cases Collector.observe c e
  -- the three branches that write the table do so past the test for an empty item id
  case case3 | case4 | case5 => exact noteCall_wf c hwf _ _ ‹_›  -- `!done`; `done`, complete; `done`, incomplete
  all_goals exact hwf

theorem reachable_wf (evs : List PEv) : (evs.foldl Collector.observe {}).WF :=
  foldl_inv observe_wf evs {} (fun _ he => nomatch he)

theorem observeItem_done (c : Collector) (idx : Nat) (i : Str) (hi : i ≠ 0) (cid' n' : Option Str) (a : Option Text)
    (cid n : Str) (hc : cid'.or (getBuf c.byItem i).callId = some cid) (hn : n'.or (getBuf c.byItem i).name = some n) :
    (observeItem c true idx i cid' n' a).completed =
      c.completed ++ [{ outputIndex := idx, callId := cid, itemId := i, name := n,
                        args := (a.filter (fun a => !a.isEmpty)).getD (getBuf c.byItem i).args }] := by
  simp [observeItem, hi, hc, hn]

theorem done_collected_iff (c : Collector) (idx : Nat) (iid : Option Str) (cid n : Str) (a : Option Text) :
    (∃ x, (c.observe (.item true idx true iid (some cid) (some n) a)).completed = c.completed ++ [x] ∧
      x.callId = cid ∧ x.name = n ∧ x.outputIndex = idx) ↔ resolveItem c iid (some cid) ≠ 0 := by
  constructor
  · rintro ⟨x, hx, -⟩ h0
    rw [observe_item_eq, h0] at hx
    -- at the empty item id `observeItem` returns `c`
    exact List.cons_ne_nil _ _ (List.self_eq_append_right.mp hx)
  · intro hi
    rw [observe_item_eq, observeItem_done c idx _ hi (some cid) (some n) a cid n rfl rfl]
    exact ⟨_, rfl, rfl, rfl, rfl⟩

/-- after any events the table is well-formed, so a `done` that carries call id and name and whose item id or call id is non-empty is collected;
for an arbitrary collector see `done_collected_cex` -/
theorem done_collected_reachable (evs : List PEv) (idx : Nat) (iid : Option Str) (cid n : Str) (a : Option Text)
    (h : nonEmpty iid ≠ none ∨ cid ≠ 0) :
    ∃ x, ((evs.foldl Collector.observe {}).observe (.item true idx true iid (some cid) (some n) a)).completed
        = (evs.foldl Collector.observe {}).completed ++ [x] ∧
      x.callId = cid ∧ x.name = n ∧ x.outputIndex = idx :=
  (done_collected_iff _ idx iid cid n a).mpr
    (resolveItem_ne_zero _ (reachable_wf evs) iid (some cid) (h.imp_right fun h => by simp [nonEmpty, h]))

/-- for an arbitrary collector it fails: a table entry `(5, 0)` swallows the event -/
theorem done_collected_cex :
    let c : Collector := { itemOfCall := [(5, 0)] }
    (nonEmpty none ≠ none ∨ (5 : Str) ≠ 0) ∧
    (c.observe (.item true 0 true none (some 5) (some 7) none)).completed = c.completed := by decide

theorem done_collected_unrestricted_false :
    ¬ ∀ (c : Collector) (idx : Nat) (iid : Option Str) (cid n : Str) (a : Option Text),
        (nonEmpty iid ≠ none ∨ cid ≠ 0) →
        ∃ x, (c.observe (.item true idx true iid (some cid) (some n) a)).completed = c.completed ++ [x] ∧
          x.callId = cid ∧ x.name = n ∧ x.outputIndex = idx := by
  intro h
  obtain ⟨x, hx, -⟩ := h { itemOfCall := [(5, 0)] } 0 none 5 7 none done_collected_cex.1
  rw [done_collected_cex.2] at hx
  cases hx

theorem getBuf_putBuf (m : List (Str × Buf)) (k : Str) (b : Buf) : getBuf (putBuf m k b) k = b := by
  simp [getBuf, putBuf]

theorem resolveItem_some (c : Collector) (i : Str) (hi : i ≠ 0) (cid : Option Str) :
    resolveItem c (some i) cid = i := by
  simp [resolveItem, nonEmpty_eq_some.mpr ⟨rfl, hi⟩]

def deltaEvents (i : Str) (ds : List (Nat × Text)) : List PEv := ds.map (fun d => PEv.argsDelta (some i) d.1 d.2)

theorem foldl_deltas (i : Str) (ds : List (Nat × Text)) (c : Collector) :
    ((deltaEvents i ds).foldl Collector.observe c).completed = c.completed ∧
    ∃ idx, getBuf ((deltaEvents i ds).foldl Collector.observe c).byItem i =
      { getBuf c.byItem i with outputIndex := idx, args := (getBuf c.byItem i).args ++ (ds.map (·.2)).flatten } := by
  induction ds generalizing c with
  | nil => exact ⟨rfl, (getBuf c.byItem i).outputIndex, by simp [deltaEvents]⟩
  | cons d ds ih =>
    obtain ⟨hc, idx, hb⟩ := ih (c.observe (.argsDelta (some i) d.1 d.2))
    exact ⟨hc, idx, by simpa [deltaEvents, Collector.observe, getBuf_putBuf] using hb⟩

theorem observe_done_noargs (c : Collector) (i : Str) (hi : i ≠ 0) (idx : Nat) (cid' n' : Option Str)
    (cid n : Str) (hc : cid'.or (getBuf c.byItem i).callId = some cid) (hn : n'.or (getBuf c.byItem i).name = some n) :
    (c.observe (.item true idx true (some i) cid' n' none)).completed =
      c.completed ++ [{ outputIndex := idx, callId := cid, itemId := i, name := n, args := (getBuf c.byItem i).args }] := by
  rw [observe_item_eq, resolveItem_some c i hi, observeItem_done c idx i hi cid' n' none cid n hc hn]
  rfl

/-- `added` for item `i` (item id and call id non-empty, a name, no arguments), then argument deltas for `i`,
then a `done` for `i` without arguments: exactly one call is completed and its arguments are whatever the
buffer of `i` held before (`[]` for a fresh item) followed by the concatenated deltas -/
theorem args_assembled (c : Collector) (i : Str) (hi : i ≠ 0) (idx₀ idx₁ : Nat) (cid n : Str) (hcid : cid ≠ 0)
    (ds : List (Nat × Text)) (cid' n' : Option Str) :
    (((deltaEvents i ds).foldl Collector.observe
        (c.observe (.item false idx₀ true (some i) (some cid) (some n) none))).observe
        (.item true idx₁ true (some i) cid' n' none)).completed =
      c.completed ++ [{ outputIndex := idx₁, callId := cid'.getD cid, itemId := i, name := n'.getD n,
                        args := (getBuf c.byItem i).args ++ (ds.map (·.2)).flatten }] := by
  -- `added` files call id and name in the buffer of `i` and leaves its arguments as they are
  have h1 : (c.observe (.item false idx₀ true (some i) (some cid) (some n) none)).completed = c.completed ∧
      getBuf (c.observe (.item false idx₀ true (some i) (some cid) (some n) none)).byItem i =
        { outputIndex := idx₀, callId := some cid, name := some n, args := (getBuf c.byItem i).args } := by
    rw [observe_item_eq, resolveItem_some c i hi]
    simp [observeItem, hi, nonEmpty_eq_some.mpr ⟨rfl, hcid⟩, getBuf_putBuf]
  generalize c.observe (.item false idx₀ true (some i) (some cid) (some n) none) = c₁ at h1 ⊢
  obtain ⟨hcomp, idx, hbuf⟩ := foldl_deltas i ds c₁
  rw [h1.2] at hbuf
  rw [observe_done_noargs _ i hi idx₁ cid' n' (cid'.getD cid) (n'.getD n), hcomp, h1.1, hbuf]
  · rw [hbuf]; cases cid' <;> rfl
  · rw [hbuf]; cases n' <;> rfl

theorem args_assembled_fresh (c : Collector) (i : Str) (hi : i ≠ 0) (hfresh : (getBuf c.byItem i).args = [])
    (idx₀ idx₁ : Nat) (cid n : Str) (hcid : cid ≠ 0) (ds : List (Nat × Text)) :
    (((deltaEvents i ds).foldl Collector.observe
        (c.observe (.item false idx₀ true (some i) (some cid) (some n) none))).observe
        (.item true idx₁ true (some i) none none none)).completed =
      c.completed ++ [{ outputIndex := idx₁, callId := cid, itemId := i, name := n,
                        args := (ds.map (·.2)).flatten }] := by
  rw [args_assembled c i hi idx₀ idx₁ cid n hcid ds none none, hfresh]; rfl

/-! ### Tool choice -/

theorem mem_functionNames {ts : List (Bool × Option Str)} {m : Str} (h : m ∈ functionNames ts) :
    (true, some m) ∈ ts := by
  obtain ⟨⟨b, o⟩, he, hm⟩ := List.mem_filterMap.mp h
  cases b with
  | false => cases hm
  | true =>
    obtain ⟨rfl, -⟩ := Option.filter_eq_some_iff.mp hm
    exact he

theorem excluded_not_allowed (tc : ToolChoice) (n : Str) (h : Excluded tc n) : tc.enforcement.allows n = false := by
  fun_cases ToolChoice.enforcement tc
  -- `auto`, `required`, anything unknown: nothing is excluded
  case case1 | case2 | case3 => exact h.elim
  -- `none`, an allowed-tools list in mode `none`: nothing is allowed
  case case4 | case6 => rfl
  case case5 o =>
    -- only `o` itself is allowed, if it is non-empty, and `n` is not `o`
    cases ho : o.filter (· != 0) with
    | none => rfl
    | some k =>
      obtain ⟨rfl, -⟩ := Option.filter_eq_some_iff.mp ho
      exact Bool.eq_false_iff.mpr fun hc => h (List.mem_singleton.mp (List.contains_iff_mem.mp hc) ▸ rfl)
  case case7 ts => exact Bool.eq_false_iff.mpr fun hc => h (mem_functionNames (List.contains_iff_mem.mp hc))

/-! ### `answerCalls` -/

def execOf (enf : Enforcement) (cs : List Call) : List (Str × Str) :=
  (cs.filter (fun c => enf.allows c.name)).map (fun c => (c.callId, c.name))

def rejOf (enf : Enforcement) (cs : List Call) : List (Str × Str) :=
  (cs.filter (fun c => !enf.allows c.name)).map (fun c => (c.callId, c.name))

theorem execOf_rejOf_length (enf : Enforcement) (cs : List Call) :
    (execOf enf cs).length + (rejOf enf cs).length = cs.length := by
  rw [execOf, rejOf, List.length_map, List.length_map, ← List.length_append]
  exact (List.filter_append_perm _ cs).length_eq

theorem answerCalls_eq (enf : Enforcement) (mx : Nat) (cs : List Call) (count : Nat) :
    answerCalls enf mx cs count =
      ((cs.take (mx - count)).map (·.callId), execOf enf (cs.take (mx - count)), rejOf enf (cs.take (mx - count)),
       count + (cs.take (mx - count)).length, decide (mx - count < cs.length)) := by
  induction cs generalizing count with
  | nil => rw [List.take_nil]; rfl
  | cons c cs ih =>
    rw [answerCalls]
    by_cases h : count ≥ mx
    · rw [if_pos h, Nat.sub_eq_zero_of_le h]; rfl
    · have hsub : mx - count = mx - (count + 1) + 1 := (Nat.sub_add_cancel (Nat.sub_pos_of_lt (Nat.lt_of_not_ge h))).symm
      rw [if_neg h, ih, hsub, List.take_succ_cons]
      simp only [execOf, rejOf, List.filter_cons, List.length_cons, Nat.add_lt_add_iff_right,
        Nat.add_right_comm count 1, Nat.add_assoc]
      cases enf.allows c.name <;> rfl

/-! ### the loop -/

abbrev Round.size (r : Round) : Nat := r.executed.length + r.rejected.length

def firstReq : Request := { hasPrev := false, input := [.user] }

def RanPrefix (cfg : Config) (a : Round) : Prop :=
  ∃ k, a.executed = execOf cfg.enf (a.calls.take k) ∧ a.rejected = rejOf cfg.enf (a.calls.take k)

/-- `req` is the proper successor request of the fully answered turn `a` -/
structure Adj (cfg : Config) (a : Round) (req : Request) : Prop where
  exec : a.executed = execOf cfg.enf a.calls
  rej : a.rejected = rejOf cfg.enf a.calls
  stateful : cfg.stateless = false →
    req.input = a.calls.map (fun c => Item.foutput c.callId) ++ msgItems cfg ∧ req.hasPrev = true
  stateless : cfg.stateless = true →
    req.input = a.request.input ++ a.calls.map (fun c => Item.fcall c.callId)
      ++ a.calls.map (fun c => Item.foutput c.callId) ++ msgItems cfg ∧ req.hasPrev = false

/-- everything we prove about the rounds of a run against the script `rs0` -/
structure RunOk (cfg : Config) (rs0 : List Response) (rounds : List Round) : Prop where
  per : ∀ a ∈ rounds, cfg.valid a.request = true ∧ RanPrefix cfg a
  chain : ∀ i a b, rounds[i]? = some a → rounds[i+1]? = some b → Adj cfg a b.request
  first : ∀ a, rounds[0]? = some a → a.request = firstReq
  sum : (rounds.map Round.size).sum ≤ cfg.maxCalls
  len : rounds.length ≤ rs0.length
  coll : ∀ (i : Nat) (a : Round) (r : Response), rounds[i]? = some a → rs0[i]? = some r → a.calls = [] ∨ a.calls = collect r.events

theorem RunOk.nil (cfg : Config) (rs0 : List Response) : RunOk cfg rs0 [] where
  per := fun _ ha => by cases ha
  chain := fun _ _ _ ha => by cases ha
  first := fun _ ha => by cases ha
  sum := Nat.zero_le _
  len := Nat.zero_le _
  coll := fun _ _ _ ha => by cases ha

theorem RunOk.snoc {cfg : Config} {rs0 : List Response} {rounds : List Round} (h : RunOk cfg rs0 rounds) (b : Round)
    (hv : cfg.valid b.request = true) (hp : RanPrefix cfg b)
    (hadj : ∀ a, rounds.getLast? = some a → Adj cfg a b.request)
    (hfirst : rounds = [] → b.request = firstReq)
    (hsum : (rounds.map Round.size).sum + b.size ≤ cfg.maxCalls)
    {r : Response} (hr : rs0[rounds.length]? = some r) (hcoll : b.calls = [] ∨ b.calls = collect r.events) :
    RunOk cfg rs0 (rounds ++ [b]) where
  per := List.forall_mem_append.mpr ⟨h.per, List.forall_mem_singleton.mpr ⟨hv, hp⟩⟩
  chain := by
    intro i x y hx hy
    -- `y` is an old round, and then so is `x`; or `y` is the new one, and then `x` is the last old round
    rcases getElem?_concat_some hy with hy | ⟨hi, rfl⟩
    · rw [List.getElem?_append_left (Nat.lt_of_succ_lt (List.getElem?_eq_some_iff.mp hy).1)] at hx
      exact h.chain i x y hx hy
    · rw [List.getElem?_append_left (hi ▸ Nat.lt_succ_self i)] at hx
      exact hadj x (by rw [List.getLast?_eq_getElem?, ← hi]; exact hx)
  first := by
    intro a ha
    rcases getElem?_concat_some ha with ha | ⟨h0, rfl⟩
    · exact h.first a ha
    · exact hfirst (List.eq_nil_of_length_eq_zero h0.symm)
  sum := by simpa [List.sum_append] using hsum
  len := by rw [List.length_append]; exact (List.getElem?_eq_some_iff.mp hr).1
  coll := by
    intro i a r' ha hr'
    rcases getElem?_concat_some ha with ha | ⟨rfl, rfl⟩
    · exact h.coll i a r' ha hr'
    · obtain rfl := Option.some.inj (hr.symm.trans hr')
      exact hcoll

/-- the request the loop builds from its state (`mk` in `loop`) -/
def mkReq (cfg : Config) (st : LoopSt) : Option Request :=
  match st.followup with
  | some outs =>
    if cfg.stateless then some { hasPrev := false, input := st.history }
    else if st.havePrev then some { hasPrev := true, input := outs ++ msgItems cfg } else none
  | none => some { hasPrev := false, input := [.user] }

/-- how the pending tool outputs of a state relate to the last round -/
structure Pending (cfg : Config) (st : LoopSt) (outs : List Item) (a : Round) : Prop where
  outs_eq : outs = a.calls.map (fun c => Item.foutput c.callId)
  exec : a.executed = execOf cfg.enf a.calls
  rej : a.rejected = rejOf cfg.enf a.calls
  hist : cfg.stateless = true →
    st.history = a.request.input ++ a.calls.map (fun c => Item.fcall c.callId) ++ outs ++ msgItems cfg
  prev : cfg.stateless = false → st.havePrev = true

/-- the loop invariant: `rs0` is the whole script, `rs` what is left of it -/
structure Inv (cfg : Config) (rs0 rs : List Response) (st : LoopSt) : Prop where
  ok : RunOk cfg rs0 st.rounds
  script : rs0.drop st.rounds.length = rs
  count : (st.rounds.map Round.size).sum = st.count
  fresh : st.followup = none → st.rounds = [] ∧ st.history = [.user]
  pending : ∀ outs, st.followup = some outs → ∃ a, st.rounds.getLast? = some a ∧ Pending cfg st outs a

theorem Inv.init (cfg : Config) (rs : List Response) : Inv cfg rs rs {} where
  ok := RunOk.nil cfg rs
  script := rfl
  count := rfl
  fresh := fun _ => ⟨rfl, rfl⟩
  pending := fun _ h => by cases h

theorem Inv.mk_props {cfg : Config} {rs0 rs : List Response} {st : LoopSt} (inv : Inv cfg rs0 rs st)
    {req : Request} (hmk : mkReq cfg st = some req) :
    (∀ a, st.rounds.getLast? = some a → Adj cfg a req) ∧ (st.rounds = [] → req = firstReq) ∧
    (cfg.stateless = true → req.input = st.history) := by
  unfold mkReq at hmk
  split at hmk
  · next outs hf =>
    obtain ⟨a, hlast, hp⟩ := inv.pending outs hf
    refine ⟨fun a' ha' => ?_, fun hnil => (by rw [hnil] at hlast; cases hlast), fun hs => ?_⟩
    · obtain rfl : a = a' := Option.some.inj (hlast.symm.trans ha')
      cases hs : cfg.stateless
      · rw [hs, hp.prev hs] at hmk
        obtain rfl := Option.some.inj hmk
        exact ⟨hp.exec, hp.rej, fun _ => ⟨by rw [hp.outs_eq], rfl⟩, fun h => nomatch hs.symm.trans h⟩
      · rw [hs] at hmk
        obtain rfl := Option.some.inj hmk
        exact ⟨hp.exec, hp.rej, fun h => (nomatch hs.symm.trans h), fun _ => ⟨by rw [hp.hist hs, hp.outs_eq], rfl⟩⟩
    · rw [hs] at hmk
      obtain rfl := Option.some.inj hmk
      rfl
  · next hf =>
    obtain ⟨hr, hh⟩ := inv.fresh hf
    obtain rfl := Option.some.inj hmk
    exact ⟨fun a ha => (by rw [hr] at ha; cases ha), fun _ => rfl, fun _ => hh.symm⟩

theorem finish_rounds (st : LoopSt) (s : String) : (finish st s).rounds = st.rounds := rfl

/-- the round one iteration appends, answered up to its `k`-th call; `hv` has the form in which `fun_induction loop`
hands it over, and so has `hmk` up to unfolding (`mkReq` is the loop's `mk`) -/
theorem Inv.round {cfg : Config} {rs0 rs : List Response} {r : Response} {st : LoopSt}
    (inv : Inv cfg rs0 (r :: rs) st) {req : Request} (hmk : mkReq cfg st = some req)
    (hv : (!cfg.valid req) ≠ true) {calls : List Call} (hcalls : calls = [] ∨ calls = collect r.events)
    (k : Nat) (hk : k ≤ cfg.maxCalls - st.count) :
    RunOk cfg rs0 (st.rounds ++ [{ request := req, calls := calls, executed := execOf cfg.enf (calls.take k),
                                   rejected := rejOf cfg.enf (calls.take k) }]) := by
  obtain ⟨hadj, hfirst, -⟩ := inv.mk_props hmk
  have hr : rs0[st.rounds.length]? = some r := by rw [← List.head?_drop, inv.script]; rfl
  refine inv.ok.snoc _ (by simpa using hv) ⟨k, rfl, rfl⟩ hadj hfirst (Nat.add_le_of_le_sub' inv.ok.sum ?_) hr hcalls
  rw [inv.count]
  -- `Round.size` of the literal round, unfolded
  show _ + _ ≤ _
  rw [execOf_rejOf_length]
  exact Nat.le_trans (List.length_take_le _ _) hk

/-- `hist` is constrained only in stateless mode, so that the loop's nested conditional can be passed as it stands -/
theorem Inv.next {cfg : Config} {rs0 rs : List Response} {r : Response} {st : LoopSt}
    (inv : Inv cfg rs0 (r :: rs) st) {req : Request} (hmk : mkReq cfg st = some req)
    (hv : (!cfg.valid req) ≠ true) {havePrev : Bool} (hprev : (!havePrev && !cfg.stateless) ≠ true)
    (hroom : (collect r.events).length ≤ cfg.maxCalls - st.count) {hist : List Item}
    (hhist : cfg.stateless = true → hist = st.history ++ (collect r.events).map (fun c => Item.fcall c.callId) ++
      ((collect r.events).map (·.callId)).map Item.foutput ++ msgItems cfg) :
    Inv cfg rs0 rs
      { followup := some (((collect r.events).map (·.callId)).map Item.foutput), havePrev := havePrev,
        count := st.count + (collect r.events).length, history := hist,
        rounds := st.rounds ++ [{ request := req, calls := collect r.events,
                                  executed := execOf cfg.enf (collect r.events),
                                  rejected := rejOf cfg.enf (collect r.events) }] } where
  ok := by
    have := inv.round hmk hv (.inr rfl) (collect r.events).length hroom
    rwa [List.take_length] at this
  script := by rw [List.length_append, ← List.drop_drop, inv.script]; rfl
  count := by
    rw [List.map_append, List.sum_append, inv.count]
    show st.count + (_ + _ + 0) = _
    rw [Nat.add_zero, execOf_rejOf_length]
  fresh := fun h => nomatch h
  pending := by
    intro outs houts
    obtain rfl := Option.some.inj houts
    refine ⟨_, List.getLast?_concat, List.map_map, rfl, rfl, fun hs => ?_, fun hs => ?_⟩
    · obtain ⟨-, -, hin⟩ := inv.mk_props hmk
      rw [hhist hs, hin hs]
    · simpa [hs] using hprev

theorem loop_ok (cfg : Config) (rs0 rs : List Response) (st : LoopSt) (inv : Inv cfg rs0 rs st) :
    RunOk cfg rs0 (loop cfg rs st).rounds := by
  fun_induction loop cfg rs st
  -- the four stops before anything is sent (script exhausted, bound reached, no request, invalid request)
  case case1 => exact inv.ok
  case case2 => exact inv.ok
  case case3 => exact inv.ok
  case case4 => exact inv.ok
  -- the stream failed / the response has no calls: a round without calls
  case case5 hmk hv _ => exact inv.round hmk hv (.inl rfl) 0 (Nat.zero_le _)
  case case6 hmk hv _ _ _ => exact inv.round hmk hv (.inl rfl) 0 (Nat.zero_le _)
  -- calls but nothing to chain the answers to: the calls are recorded, none is answered
  case case7 hmk hv _ _ _ _ _ => exact inv.round hmk hv (.inr rfl) 0 (Nat.zero_le _)
  -- the bound cut the response short
  case case8 r rs st hcnt mk req hmk hv hstream havePrev calls hempty hprev ans ex rj cnt round hans =>  -- `hit`
    rw [answerCalls_eq] at hans
    simp only [Prod.mk.injEq] at hans
    obtain ⟨-, rfl, rfl, -, -⟩ := hans
    exact inv.round hmk hv (.inr rfl) _ (Nat.le_refl _)
  -- every call was answered and the loop goes on
  case case9 r rs st hcnt mk req hmk hv hstream havePrev calls hempty hprev ans ex rj cnt hit hans round history
      hhit outs ih =>  -- `!hit`: the recursive call
    rw [answerCalls_eq] at hans
    simp only [Prod.mk.injEq] at hans
    have hall : (collect r.events).length ≤ cfg.maxCalls - st.count :=
      Nat.le_of_not_lt fun hlt => hhit (hans.2.2.2.2 ▸ decide_eq_true hlt)
    rw [List.take_of_length_le hall] at hans
    obtain ⟨rfl, rfl, rfl, rfl, -⟩ := hans
    exact ih (inv.next hmk hv hprev hall fun hs => by
      simp only [history, hs, if_true]; rfl)

theorem agentLoop_ok (cfg : Config) (rs : List Response) : RunOk cfg rs (agentLoop cfg rs).rounds :=
  loop_ok cfg rs rs {} (Inv.init cfg rs)

theorem barred_never_runs (tc : ToolChoice) (cfg : Config) (hc : cfg.enf = tc.enforcement) (rs : List Response)
    (a : Round) (ha : a ∈ (agentLoop cfg rs).rounds) (p : Str × Str) (hp : p ∈ a.executed) : ¬ Excluded tc p.2 := by
  obtain ⟨k, hex, -⟩ := ((agentLoop_ok cfg rs).per a ha).2
  rw [hex] at hp
  obtain ⟨c, hcm, rfl⟩ := List.mem_map.mp hp
  have hallow : cfg.enf.allows c.name = true := (List.mem_filter.mp hcm).2
  intro hexcl
  rw [hc, excluded_not_allowed tc c.name hexcl] at hallow
  cases hallow

theorem bounded (cfg : Config) (rs : List Response) :
    ((agentLoop cfg rs).rounds.map (fun r => r.executed.length + r.rejected.length)).sum ≤ cfg.maxCalls :=
  (agentLoop_ok cfg rs).sum

theorem invalid_never_sent (cfg : Config) (rs : List Response) (a : Round) (ha : a ∈ (agentLoop cfg rs).rounds) :
    cfg.valid a.request = true :=
  ((agentLoop_ok cfg rs).per a ha).1

theorem calls_sorted (cfg : Config) (rs : List Response) (a : Round) (ha : a ∈ (agentLoop cfg rs).rounds) :
    a.calls.Pairwise (fun x y => x.outputIndex ≤ y.outputIndex) := by
  have ok := agentLoop_ok cfg rs
  obtain ⟨i, hi⟩ := List.mem_iff_getElem?.mp ha
  have hlt : i < rs.length := Nat.lt_of_lt_of_le (List.getElem?_eq_some_iff.mp hi).1 ok.len
  rcases ok.coll i a rs[i] hi (List.getElem?_eq_getElem hlt) with h | h
  · rw [h]; exact List.Pairwise.nil
  · rw [h]; exact (drain_spec _).sorted

/-! ### non-vacuity checks on concrete scripts -/

def exCfg (stateless : Bool) (maxCalls : Nat := 32) : Config :=
  { stateless := stateless, followupMsg := true, enf := .only [7], valid := fun _ => true, maxCalls := maxCalls }

/-- a response with two calls, reported out of output order: index 1 (tool 7, allowed) then index 0 (tool 8, barred) -/
def exTwoCalls : Response :=
  { streamOk := true, hasResponseId := true,
    events := [.item true 1 true (some 101) (some 11) (some 7) (some [1, 2]),
               .item true 0 true (some 100) (some 10) (some 8) none] }

def exQuiet : Response := { streamOk := true, hasResponseId := true, events := [] }

/-- a two-turn run in previous_response_id mode: the second request answers both calls, by call id, in output order -/
example :
    (agentLoop (exCfg false) [exTwoCalls, exQuiet]).rounds =
      [{ request := { hasPrev := false, input := [.user] },
         calls := [{ outputIndex := 0, callId := 10, itemId := 100, name := 8, args := [] },
                   { outputIndex := 1, callId := 11, itemId := 101, name := 7, args := [1, 2] }],
         executed := [(11, 7)], rejected := [(10, 8)] },
       { request := { hasPrev := true, input := [.foutput 10, .foutput 11, .followupMsg] } }] := by decide

/-- the same run, stateless: the second request carries the whole history -/
example :
    ((agentLoop (exCfg true) [exTwoCalls, exQuiet]).rounds.map (·.request)) =
      [{ hasPrev := false, input := [.user] },
       { hasPrev := false, input := [.user, .fcall 10, .fcall 11, .foutput 10, .foutput 11, .followupMsg] }] := by
  decide

/-- a response with 33 calls of tool 7 -/
def exFlood : Response :=
  { streamOk := true, hasResponseId := true,
    events := (List.range 33).map (fun i => PEv.item true i true (some (i + 1)) (some (i + 1)) (some 7) none) }

/-- 33 calls hit the bound of 32: 32 run, the loop stops, nothing further is sent -/
example :
    let out := agentLoop { stateless := false, followupMsg := false, enf := .all, valid := fun _ => true,
                           maxCalls := 32 }
      [exFlood, exQuiet]
    out.rounds.length = 1 ∧
    out.rounds.map (fun r => (r.calls.length, r.executed.length, r.rejected.length)) = [(33, 32, 0)] ∧
    (out.rounds.map (fun r => r.executed.length + r.rejected.length)).sum = 32 := by decide

/-- a response with three calls, reported out of output order (output order: tool 8, tool 7, tool 7) -/
def exThreeCalls : Response :=
  { streamOk := true, hasResponseId := true,
    events := [.item true 1 true (some 101) (some 11) (some 7) none,
               .item true 2 true (some 102) (some 12) (some 7) none,
               .item true 0 true (some 100) (some 10) (some 8) none] }

/-- three calls (the first, of tool 8, barred) under `maxCalls := 2`: the run is cut mid-response. The first two
calls are answered (one rejected, one run: rejections count towards the bound), the third is neither run nor
rejected, and no further request is sent although the script goes on -/
example :
    (agentLoop (exCfg false 2) [exThreeCalls, exQuiet]).rounds =
      [{ request := { hasPrev := false, input := [.user] },
         calls := [{ outputIndex := 0, callId := 10, itemId := 100, name := 8, args := [] },
                   { outputIndex := 1, callId := 11, itemId := 101, name := 7, args := [] },
                   { outputIndex := 2, callId := 12, itemId := 102, name := 7, args := [] }],
         executed := [(11, 7)], rejected := [(10, 8)] }] := by decide

/-- `maxCalls := 2` reached exactly at the end of a response: both calls are answered, but the loop stops before
the request that would carry their outputs -/
example :
    (agentLoop (exCfg false 2) [exTwoCalls, exQuiet]).rounds.map (fun r => (r.request, r.executed, r.rejected)) =
      [({ hasPrev := false, input := [.user] }, [(11, 7)], [(10, 8)])] := by decide

/-- argument assembly on a concrete stream: `added`, two deltas, `done` -/
example :
    collect [.item false 0 true (some 100) (some 10) (some 7) none,
             .argsDelta (some 100) 0 [1, 2], .argsDelta (some 100) 0 [3],
             .item true 0 true (some 100) none none none] =
      [{ outputIndex := 0, callId := 10, itemId := 100, name := 7, args := [1, 2, 3] }] := by decide

end Rip.ToolLoop
