import Rip.Model.Lineage
import Rip.Lemmas.Basic
/-!
C10: cut resolution of branch / handoff. `scanMsg` is a left fold of `scanStep`, a running maximum on frames
that do not carry the message (`scan_nomatch_eq`); splitting the thread at the last frame that does gives
`from_message_id` in closed form (`resolveCut_fromMsg_cases`). Of `WellNumbered` only increasing seqs are used.
-/
namespace Rip.Lineage
open Rip.Basic

theorem find_rev_split {α : Type} {p : α → Bool} {T : List α} {f : α} (h : T.reverse.find? p = some f) :
    p f = true ∧ ∃ pre post, T = pre ++ f :: post ∧ ∀ g ∈ post, p g = false := by
  obtain ⟨hp, as, bs, e, has⟩ := List.find?_eq_some_iff_append.mp h
  refine ⟨hp, bs.reverse, as.reverse, ?_, fun g hg => ?_⟩
  · rw [List.reverse_eq_append_iff.1 e, List.reverse_cons, List.append_assoc, List.singleton_append]
  · exact (Bool.not_eq_true' _).mp (has g (List.mem_reverse.1 hg))

/-! ### increasing seqs -/

/-- a thread as the store keeps it: frames numbered 0,1,2,… in order -/
def WellNumbered (T : List F) : Prop := T.map (·.seq) = List.range T.length

theorem WellNumbered.increasing {T : List F} (hw : WellNumbered T) :
    T.Pairwise (fun a b => a.seq < b.seq) :=
  List.pairwise_map.1 (hw ▸ List.pairwise_lt_range)

theorem wn_getElem? (T : List F) (hw : WellNumbered T) (i : Nat) (f : F) (h : T[i]? = some f) :
    f.seq = i := by
  have e := congrArg (·[i]?) hw
  rw [List.getElem?_map, h, List.getElem?_range (List.getElem?_eq_some_iff.1 h).1] at e
  exact Option.some.inj e

theorem wn_mem_lt (T : List F) (hw : WellNumbered T) (f : F) (hf : f ∈ T) : f.seq < T.length := by
  obtain ⟨i, h⟩ := List.mem_iff_getElem?.1 hf
  rw [wn_getElem? T hw i f h]
  exact (List.getElem?_eq_some_iff.1 h).1

theorem seq_le_or_mem_post {pre post : List F} {f g : F}
    (hi : (pre ++ f :: post).Pairwise (fun a b => a.seq < b.seq)) (hg : g ∈ pre ++ f :: post) :
    g.seq ≤ f.seq ∨ g ∈ post := by
  rcases List.mem_append.1 hg with hg | hg
  · exact Or.inl (Nat.le_of_lt ((List.pairwise_append.1 hi).2.2 g hg f List.mem_cons_self))
  · exact (List.mem_cons.1 hg).imp_left fun e => Nat.le_of_eq (congrArg F.seq e)

theorem seq_le_headSeq {T : List F} (hi : T.Pairwise (fun a b => a.seq < b.seq)) {f : F} (hf : f ∈ T) :
    f.seq ≤ headSeq T := by
  unfold headSeq
  cases hl : T.getLast? with
  | none =>
    rw [List.getLast?_eq_none_iff.1 hl] at hf
    cases hf
  | some x => exact le_getLast_of_pairwise F.seq hi hl f hf

theorem wn_headSeq (T : List F) (hw : WellNumbered T) (hne : T ≠ []) : headSeq T = T.length - 1 := by
  unfold headSeq
  cases hl : T.getLast? with
  | none => exact absurd (List.getLast?_eq_none_iff.1 hl) hne
  | some f => exact wn_getElem? T hw _ f (List.getLast?_eq_getElem?.symm.trans hl)

/-! ### `scanMsg` -/

/-- a run_spawned or run_ended frame of a run that answers message `mId` -/
def related (mId : Nat) (f : F) : Bool :=
  match f.kind with
  | .runSpawned mid => mid == mId
  | .runEnded mid => mid == mId
  | _ => false

def isMatch (mId : Nat) (f : F) : Bool := isMessage f && f.id == mId

def scanStep (m : Nat) (acc : Option Nat × Option Nat) (f : F) : Option Nat × Option Nat :=
  if isMatch m f then (some f.seq, some f.seq)
  else if related m f then (acc.1, some (max (acc.2.getD 0) f.seq)) else acc

theorem scanMsg_cons (m : Nat) (f : F) (rest : List F) (acc : Option Nat × Option Nat) :
    scanMsg m (f :: rest) acc = scanMsg m rest (scanStep m acc f) := by
  obtain ⟨ms, mx⟩ := acc
  rcases f with ⟨s, i, q, k⟩
  cases k with
  | message | runSpawned mid | runEnded mid =>
    -- both sides branch on the same test, the left one outside `scanMsg m rest`, the right one inside
    simp only [scanMsg, scanStep, isMatch, isMessage, related, Bool.true_and, Bool.false_and, beq_iff_eq,
      Bool.false_eq_true, if_false]
    exact (apply_ite _ _ _ _).symm
  | _ => rfl

theorem scanMsg_eq_foldl (m : Nat) (L : List F) (acc : Option Nat × Option Nat) :
    scanMsg m L acc = L.foldl (scanStep m) acc := by
  induction L generalizing acc with
  | nil => rfl
  | cons f rest ih => rw [scanMsg_cons, ih, List.foldl_cons]

theorem scan_append (m : Nat) (pre rest : List F) (acc : Option Nat × Option Nat) :
    scanMsg m (pre ++ rest) acc = scanMsg m rest (scanMsg m pre acc) := by
  simp only [scanMsg_eq_foldl, List.foldl_append]

theorem scan_nomatch_eq (m : Nat) (L : List F) (hn : ∀ f ∈ L, isMatch m f = false) (ms mx : Option Nat) :
    L.foldl (scanStep m) (ms, mx) =
      (ms, ((L.filter (related m)).map F.seq).foldl (fun mx s => some (max (mx.getD 0) s)) mx) := by
  induction L generalizing mx with
  | nil => rfl
  | cons f rest ih =>
    obtain ⟨hf, hrest⟩ := List.forall_mem_cons.1 hn
    rw [List.foldl_cons, scanStep, if_neg (Bool.eq_false_iff.1 hf)]
    by_cases hr : related m f = true
    · rw [if_pos hr, List.filter_cons_of_pos hr]
      exact ih hrest _
    · rw [if_neg hr, List.filter_cons_of_neg hr]
      exact ih hrest _

/-! ### `lastMessage` -/

theorem lastMessage_some {T : List F} {p : F → Bool} {i : Nat} (h : lastMessage T p = some i) :
    ∃ pre f post, T = pre ++ f :: post ∧ f.id = i ∧ p f = true ∧ isMessage f = true ∧
      ∀ g ∈ post, ¬ (p g = true ∧ isMessage g = true) := by
  obtain ⟨f, hf, hid⟩ := Option.map_eq_some_iff.1 h
  obtain ⟨hp, pre, post, e, hpost⟩ := find_rev_split hf
  obtain ⟨hpf, hmf⟩ := Bool.and_eq_true_iff.1 hp
  exact ⟨pre, f, post, e, hid, hpf, hmf, fun g hg hc =>
    Bool.eq_false_iff.1 (hpost g hg) (Bool.and_eq_true_iff.2 hc)⟩

theorem lastMessage_none {T : List F} {p : F → Bool} (h : lastMessage T p = none) :
    ∀ g ∈ T, isMessage g = true → p g = false := by
  intro g hg hm
  have := List.find?_eq_none.1 (Option.map_eq_none_iff.1 h) g (List.mem_reverse.2 hg)
  simpa [hm] using this

/-! ### cut resolution -/

theorem resolveCut_fromSeq {T : List F} (hne : T ≠ []) (q : Nat) :
    resolveCut T (.fromSeq q) =
      if q > headSeq T then .error .outOfRange else .ok (q, lastMessage T (fun f => f.seq ≤ q)) := by
  cases T with
  | nil => exact absurd rfl hne
  | cons a T' => rfl

theorem resolveCut_fromMsg {T : List F} (hne : T ≠ []) (m : Nat) :
    resolveCut T (.fromMsg m) =
      match scanMsg m T (none, none) with
      | (none, _) => .error .notFound
      | (some _, mx) => .ok (mx.getD 0, some m) := by
  cases T with
  | nil => exact absurd rfl hne
  | cons a T' => rfl

theorem resolveCut_none {T : List F} (hne : T ≠ []) :
    resolveCut T .none = .ok (headSeq T, lastMessage T (fun _ => true)) := by
  cases T with
  | nil => exact absurd rfl hne
  | cons a T' => rfl

theorem resolveCut_ok_ne_nil {T : List F} {sel : Sel} {r : Nat × Option Nat}
    (h : resolveCut T sel = .ok r) : T ≠ [] := by
  rintro rfl
  cases sel <;> cases h

theorem resolveCut_fromSeq_ok (T : List F) (q' q : Nat) (m : Option Nat)
    (h : resolveCut T (.fromSeq q') = .ok (q, m)) :
    q = q' ∧ q' ≤ headSeq T ∧ m = lastMessage T (fun f => f.seq ≤ q') := by
  rw [resolveCut_fromSeq (resolveCut_ok_ne_nil h)] at h
  split at h
  · cases h
  · next hle =>
    cases h
    exact ⟨rfl, Nat.le_of_not_gt hle, rfl⟩

/-- `from_message_id`: not found, or the maximum over the last message frame carrying the id and the related
frames behind it -/
theorem resolveCut_fromMsg_cases {T : List F} (hne : T ≠ []) (m : Nat) :
    (resolveCut T (.fromMsg m) = .error .notFound ∧ ∀ f ∈ T, isMatch m f = false) ∨
    ∃ pre fm post, T = pre ++ fm :: post ∧ isMatch m fm = true ∧ (∀ g ∈ post, isMatch m g = false) ∧
      resolveCut T (.fromMsg m) = .ok (((post.filter (related m)).map F.seq).foldl max fm.seq, some m) := by
  cases hfind : T.reverse.find? (isMatch m) with
  | none =>
    have hn : ∀ f ∈ T, isMatch m f = false := fun f hf =>
      Bool.eq_false_iff.2 (List.find?_eq_none.1 hfind f (List.mem_reverse.2 hf))
    refine Or.inl ⟨?_, hn⟩
    rw [resolveCut_fromMsg hne, scanMsg_eq_foldl, scan_nomatch_eq m T hn]
  | some fm =>
    obtain ⟨hm, pre, post, rfl, hpost⟩ := find_rev_split hfind
    refine Or.inr ⟨pre, fm, post, rfl, hm, hpost, ?_⟩
    -- behind `fm` the second component is never `none`: the fold is `some` of a fold of `max`
    rw [resolveCut_fromMsg hne, scanMsg_eq_foldl, List.foldl_append, List.foldl_cons, scanStep, if_pos hm,
      scan_nomatch_eq m post hpost, List.foldl_hom some (g₁ := max) (fun _ _ => rfl)]
    rfl

/-- selector `from_seq q'`: the cut is q' and names the last message at or before it (or none) -/
theorem cut_from_seq (T : List F) (q' q : Nat) (m : Option Nat)
    (h : resolveCut T (.fromSeq q') = .ok (q, m)) :
    q = q' ∧ q' ≤ headSeq T ∧
    (∀ i, m = some i → ∃ f ∈ T, f.id = i ∧ isMessage f = true ∧ f.seq ≤ q) ∧
    (m = none → ∀ g ∈ T, isMessage g = true → ¬ g.seq ≤ q) := by
  obtain ⟨rfl, hle, rfl⟩ := resolveCut_fromSeq_ok T q' q m h
  refine ⟨rfl, hle, fun i hi => ?_, fun hn g hg hm => of_decide_eq_false (lastMessage_none hn g hg hm)⟩
  obtain ⟨pre, f, post, e, hid, hp, hm, _⟩ := lastMessage_some hi
  exact ⟨f, e ▸ List.mem_append_right _ List.mem_cons_self, hid, hm, of_decide_eq_true hp⟩

/-- with increasing seqs the named message is the LAST one at or before the cut -/
theorem cut_from_seq_last (T : List F) (hi : T.Pairwise (fun a b => a.seq < b.seq)) (q' q i : Nat)
    (h : resolveCut T (.fromSeq q') = .ok (q, some i)) :
    ∃ f ∈ T, f.id = i ∧ isMessage f = true ∧ f.seq ≤ q ∧
      ∀ g ∈ T, isMessage g = true → g.seq ≤ q → g.seq ≤ f.seq := by
  obtain ⟨rfl, hle, hm⟩ := resolveCut_fromSeq_ok T q' q _ h
  obtain ⟨pre, f, post, e, hid, hp, hmsg, hpost⟩ := lastMessage_some hm.symm
  subst e
  refine ⟨f, List.mem_append_right _ List.mem_cons_self, hid, hmsg, of_decide_eq_true hp, ?_⟩
  intro g hg hgm hgq
  exact (seq_le_or_mem_post hi hg).resolve_right fun hpo => hpost g hpo ⟨decide_eq_true hgq, hgm⟩

theorem cut_none (T : List F) (q : Nat) (m : Option Nat) (h : resolveCut T .none = .ok (q, m)) :
    q = headSeq T ∧ m = lastMessage T (fun _ => true) := by
  rw [resolveCut_none (resolveCut_ok_ne_nil h)] at h
  cases h
  exact ⟨rfl, rfl⟩

/-- the covering property, for the LAST message frame carrying the id (no uniqueness needed): every
related frame of the thread, not only those behind `fm`, is at or before the cut -/
theorem cut_from_msg_covers_last (T : List F) (hi : T.Pairwise (fun a b => a.seq < b.seq)) (mId q : Nat)
    (m : Option Nat) (h : resolveCut T (.fromMsg mId) = .ok (q, m)) :
    m = some mId ∧ ∃ fm ∈ T, fm.id = mId ∧ isMessage fm = true ∧ fm.seq ≤ q ∧
      (∀ g ∈ T, isMessage g = true → g.id = mId → g.seq ≤ fm.seq) ∧
      (∀ g ∈ T, related mId g = true → g.seq ≤ q) ∧
      (q = fm.seq ∨ ∃ g ∈ T, related mId g = true ∧ g.seq = q) := by
  rcases resolveCut_fromMsg_cases (resolveCut_ok_ne_nil h) mId with ⟨he, _⟩ | ⟨pre, fm, post, rfl, hmatch, hpost, he⟩
  · cases he.symm.trans h
  cases he.symm.trans h
  -- the cut is a member of `fm.seq :: seqs of the related frames behind fm` and bounds every member
  obtain ⟨hmem, hall⟩ := List.max?_eq_some_iff.1
    (List.max?_cons' (x := fm.seq) (xs := (post.filter (related mId)).map F.seq))
  simp only [isMatch, Bool.and_eq_true, beq_iff_eq] at hmatch
  refine ⟨rfl, fm, List.mem_append_right _ List.mem_cons_self, hmatch.2, hmatch.1, hall _ List.mem_cons_self,
    ?_, ?_, (List.mem_cons.1 hmem).imp_right ?_⟩
  · intro g hg hgm hgid
    exact (seq_le_or_mem_post hi hg).resolve_right fun hpo =>
      Bool.eq_false_iff.1 (hpost g hpo) (Bool.and_eq_true_iff.2 ⟨hgm, beq_iff_eq.2 hgid⟩)
  · intro g hg hrel
    rcases seq_le_or_mem_post hi hg with hle | hpo
    · exact Nat.le_trans hle (hall _ List.mem_cons_self)
    · exact hall _ (List.mem_cons_of_mem _ (List.mem_map_of_mem (List.mem_filter.2 ⟨hpo, hrel⟩)))
  · intro hmem
    obtain ⟨g, hg, e⟩ := List.mem_map.1 hmem
    obtain ⟨hpo, hrel⟩ := List.mem_filter.1 hg
    exact ⟨g, List.mem_append_right _ (List.mem_cons_of_mem _ hpo), hrel, e⟩

/-- an instance of the above; `hu` (ids unique among messages) is not needed for it -/
theorem cut_from_msg_covers (T : List F) (hw : WellNumbered T) (mId q : Nat) (m : Option Nat)
    (hu : ∀ f ∈ T, ∀ g ∈ T, isMessage f = true → isMessage g = true → f.id = mId → g.id = mId → f = g)
    (h : resolveCut T (.fromMsg mId) = .ok (q, m)) :
    ∃ fm ∈ T, fm.id = mId ∧ isMessage fm = true ∧ fm.seq ≤ q ∧
      (∀ g ∈ T, related mId g = true → fm.seq ≤ g.seq → g.seq ≤ q) ∧
      (q = fm.seq ∨ ∃ g ∈ T, related mId g = true ∧ g.seq = q) := by
  obtain ⟨_, fm, hfm, hid, hmsg, hle, _, hall, hor⟩ := cut_from_msg_covers_last T hw.increasing mId q m h
  have _ := hu
  exact ⟨fm, hfm, hid, hmsg, hle, fun g hg hr _ => hall g hg hr, hor⟩

/-- the same, stated for EVERY message frame carrying the id (this is where uniqueness is used) -/
theorem cut_from_msg_covers_all (T : List F) (hw : WellNumbered T) (mId q : Nat) (m : Option Nat)
    (hu : ∀ f ∈ T, ∀ g ∈ T, isMessage f = true → isMessage g = true → f.id = mId → g.id = mId → f = g)
    (h : resolveCut T (.fromMsg mId) = .ok (q, m)) :
    ∀ fm ∈ T, fm.id = mId → isMessage fm = true → fm.seq ≤ q ∧
      (∀ g ∈ T, related mId g = true → fm.seq ≤ g.seq → g.seq ≤ q) ∧
      (q = fm.seq ∨ ∃ g ∈ T, related mId g = true ∧ g.seq = q) := by
  obtain ⟨_, f0, hf0, hid0, hmsg0, hle, _, hall, hor⟩ := cut_from_msg_covers_last T hw.increasing mId q m h
  intro fm hfm hid hmsg
  have : fm = f0 := hu fm hfm f0 hf0 hmsg hmsg0 hid hid0
  subst this
  exact ⟨hle, fun g hg hr _ => hall g hg hr, hor⟩

/-- the head has the greatest seq, and the cut is a requested seq below it or the seq of a frame -/
theorem cut_le_headSeq (T : List F) (hi : T.Pairwise (fun a b => a.seq < b.seq)) (sel : Sel) (q : Nat)
    (m : Option Nat) (h : resolveCut T sel = .ok (q, m)) : q ≤ headSeq T := by
  cases sel with
  | none => exact Nat.le_of_eq (cut_none T q m h).1
  | fromSeq q' =>
    obtain ⟨rfl, hle, _⟩ := resolveCut_fromSeq_ok T q' q m h
    exact hle
  | fromMsg mId =>
    obtain ⟨_, fm, hfm, _, _, _, _, _, hor⟩ := cut_from_msg_covers_last T hi mId q m h
    rcases hor with rfl | ⟨g, hg, _, rfl⟩
    · exact seq_le_headSeq hi hfm
    · exact seq_le_headSeq hi hg
  | both a b => cases h

theorem cut_in_range (T : List F) (hw : WellNumbered T) (sel : Sel) (q : Nat) (m : Option Nat)
    (h : resolveCut T sel = .ok (q, m)) : q ≤ headSeq T :=
  cut_le_headSeq T hw.increasing sel q m h

/-! ### selector errors -/

theorem sel_both_rejected (T : List F) (q m : Nat) : resolveCut T (.both q m) = .error .conflicting := rfl

theorem sel_seq_out_of_range (T : List F) (hne : T ≠ []) (q : Nat) (h : headSeq T < q) :
    resolveCut T (.fromSeq q) = .error .outOfRange := by
  rw [resolveCut_fromSeq hne]
  exact if_pos h

theorem sel_unknown_message (T : List F) (hne : T ≠ []) (mId : Nat)
    (h : ∀ f ∈ T, isMessage f = true → f.id ≠ mId) : resolveCut T (.fromMsg mId) = .error .notFound := by
  rcases resolveCut_fromMsg_cases hne mId with ⟨he, _⟩ | ⟨pre, fm, post, rfl, hm, _⟩
  · exact he
  · simp only [isMatch, Bool.and_eq_true, beq_iff_eq] at hm
    exact absurd hm.2 (h fm (List.mem_append_right _ List.mem_cons_self) hm.1)

theorem sel_unknown_thread (sel : Sel) (h : ∀ q m, sel ≠ .both q m) :
    resolveCut [] sel = .error .noSuchThread := by
  cases sel with
  | both q m => exact absurd rfl (h q m)
  | _ => rfl

/-! ### `branch` / `handoff` on the log -/

theorem streamOf_append_child_ne (log : Log) (child t : Nat) (a b : F)
    (ha : a.stream = child) (hb : b.stream = child) (ht : t ≠ child) :
    streamOf (log ++ [a, b]) t = streamOf log t := by
  have hc : (child == t) = false := beq_false_of_ne (Ne.symm ht)
  simp [streamOf, List.filter_append, ha, hb, hc]

theorem streamOf_append_child (log : Log) (child : Nat) (a b : F)
    (ha : a.stream = child) (hb : b.stream = child) :
    streamOf (log ++ [a, b]) child = streamOf log child ++ [a, b] := by
  simp [streamOf, List.filter_append, ha, hb]

theorem branch_ok (log log' : Log) (parent child idC idB : Nat) (sel : Sel) (q : Nat) (m : Option Nat)
    (h : branch log parent child idC idB sel = .ok (log', q, m)) :
    resolveCut (streamOf log parent) sel = .ok (q, m) ∧
    log' = log ++ [{ stream := child, id := idC, seq := 0, kind := .created },
                   { stream := child, id := idB, seq := 1, kind := .branched parent q m }] := by
  unfold branch at h
  split at h
  · cases h
  · next q0 m0 e =>
    cases h
    exact ⟨e, rfl⟩

/-- the last conjunct: the lineage record carries a resolvable summary, the caller's artifact, which exists,
or the fresh bundle written for a markdown summary -/
theorem handoff_ok (log log' : Log) (ex : Nat → Bool) (src child idC idH fresh : Nat) (sel : Sel)
    (md : Bool) (art : Option Nat) (q : Nat) (m a : Option Nat)
    (h : handoff log ex src child idC idH fresh sel md art = .ok (log', q, m, a)) :
    resolveCut (streamOf log src) sel = .ok (q, m) ∧
    log' = log ++ [{ stream := child, id := idC, seq := 0, kind := .created },
                   { stream := child, id := idH, seq := 1, kind := .handoff src q m a md }] ∧
    (∃ x, a = some x ∧ (art = some x → ex x = true) ∧ (art = none → x = fresh ∧ md = true)) := by
  unfold handoff at h
  -- `split at h` on this first test costs five times as much as on any of the later ones
  by_cases hsum : (!md && art.isNone) = true
  · rw [if_pos hsum] at h
    cases h
  rw [if_neg hsum] at h
  split at h
  · cases h
  split at h
  · cases h
  rename_i q0 m0 e
  split at h
  · next a0 =>
    split at h
    · cases h
    · next hex =>
      cases h
      exact ⟨e, rfl, a0, rfl, fun _ => by simpa using hex, nofun⟩
  · cases h
    exact ⟨e, rfl, fresh, rfl, nofun, fun _ => ⟨rfl, by simpa using hsum⟩⟩

theorem handoff_requires_summary (log : Log) (ex : Nat → Bool) (src child idC idH fresh : Nat) (sel : Sel) :
    handoff log ex src child idC idH fresh sel false none = .error .noSummary := rfl

/-! ### sharpness: `cut_in_range` fails where seqs do not increase (from_message_id takes the maximum
of recorded seqs, `headSeq` reads the last frame) -/

instance (T : List F) : Decidable (WellNumbered T) := by unfold WellNumbered; infer_instance

def cexUnnumbered : List F := [⟨0, 7, 0, .message⟩, ⟨0, 8, 5, .runSpawned 7⟩, ⟨0, 9, 1, .other⟩]

example : resolveCut cexUnnumbered (.fromMsg 7) = .ok (5, some 7) ∧ headSeq cexUnnumbered = 1 ∧
    ¬ WellNumbered cexUnnumbered ∧ ¬ (5 ≤ headSeq cexUnnumbered) :=
  ⟨rfl, rfl, by decide, by decide⟩

/-- non-vacuity on a well-numbered thread: a later run frame moves the cut past the message -/
def exThread : List F :=
  [⟨0, 10, 0, .created⟩, ⟨0, 7, 1, .message⟩, ⟨0, 11, 2, .runSpawned 7⟩,
   ⟨0, 12, 3, .message⟩, ⟨0, 13, 4, .runEnded 7⟩, ⟨0, 14, 5, .other⟩]

example : WellNumbered exThread ∧ resolveCut exThread (.fromMsg 7) = .ok (4, some 7) ∧
    resolveCut exThread (.fromSeq 2) = .ok (2, some 7) ∧ resolveCut exThread .none = .ok (5, some 12) ∧
    resolveCut exThread (.fromSeq 0) = .ok (0, none) ∧
    resolveCut exThread (.fromSeq 6) = .error .outOfRange ∧
    resolveCut exThread (.fromMsg 11) = .error .notFound :=
  ⟨by decide, rfl, rfl, rfl, rfl, rfl, rfl⟩

end Rip.Lineage
