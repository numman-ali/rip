import Rip.Model.Compaction
import Rip.Lemmas.Basic
/-!
C09: `bestCkpt` is a keep-the-better fold over the candidates `ckCand`, so its specification is an instance of
`foldl_keepBetter`; `mkCut_spec` says what a cut records, and every cut point is `mkCut` at a positive
multiple of the stride. The statements about `auto` are read off the kinds and seqs of what a job appends.
-/
namespace Rip.Compaction
open Rip.Basic

/-- the fold step that keeps the better of two (the earlier one on a tie) -/
def keepBetter {β : Type} (better : β → β → Bool) (best : Option β) (c : β) : Option β :=
  match best with
  | none => some c
  | some b => if better c b then some c else some b

/-- for a strict weak order `better`, the fold returns a member that none beats -/
theorem foldl_keepBetter {β : Type} (better : β → β → Bool)
    (asymm : ∀ a b, better a b = true → better b a = false)
    (ntrans : ∀ a b c, better a b = false → better b c = false → better a c = false)
    (l : List β) :
    match l.foldl (keepBetter better) none with
    | none => l = []
    | some b => b ∈ l ∧ ∀ c ∈ l, better c b = false := by
  have irrefl : ∀ a, better a a = false := fun a => by
    cases h : better a a with
    | false => rfl
    | true => exact h.symm.trans (asymm a a h)
  refine foldl_hist_inv (pre := []) (s := none) (Inv := fun pre best => match best with
    | none => pre = []
    | some b => b ∈ pre ∧ ∀ c ∈ pre, better c b = false) ?_ l rfl
  intro pre best c h
  fun_cases keepBetter better best c with
  | case1 =>
    subst h
    exact ⟨List.mem_singleton.2 rfl, List.forall_mem_singleton.2 (irrefl c)⟩
  | case2 b hc =>
    -- `c` replaces `b`; what does not beat `b` does not beat `c` either
    exact ⟨List.mem_append_right _ (List.mem_singleton.2 rfl), List.forall_mem_append.2
      ⟨fun a ha => ntrans a b c (h.2 a ha) (asymm c b hc), List.forall_mem_singleton.2 (irrefl c)⟩⟩
  | case3 b hc =>
    exact ⟨List.mem_append_left _ h.1, List.forall_mem_append.2
      ⟨h.2, List.forall_mem_singleton.2 (Bool.eq_false_iff.2 hc)⟩⟩

theorem map_mapIdx_of {α β γ : Type} (g : β → γ) {f : Nat → α → β} (h : α → γ) {l : List α}
    (e : ∀ i a, g (f i a) = h a) : (l.mapIdx f).map g = l.map h := by
  apply List.ext_getElem?
  intro i
  rw [List.getElem?_map, List.getElem?_mapIdx, List.getElem?_map]
  cases l[i]? with
  | none => rfl
  | some a => exact congrArg some (e i a)

theorem map_mapIdx_add {α β : Type} (g : β → Nat) {f : Nat → α → β} (s : Nat) {l : List α}
    (e : ∀ i a, g (f i a) = s + i) : (l.mapIdx f).map g = List.range' s l.length := by
  apply List.ext_getElem
  · rw [List.length_map, List.length_mapIdx, List.length_range']
  · intro i _ _
    rw [List.getElem_map, List.getElem_mapIdx, List.getElem_range', e, Nat.one_mul]

theorem clamp_le_hi (x lo hi : Nat) : clamp x lo hi ≤ hi :=
  Nat.min_le_right _ _

theorem messages_append_other (T : Thread) (f : F) (hf : f.kind ≠ .message) :
    messages (T ++ [f]) = messages T := by
  have : isMsg f = false := by
    fun_cases isMsg f with
    | case1 h => exact absurd h hf
    | case2 => rfl
  unfold messages
  rw [List.filter_append, List.filter_cons_of_neg (Bool.eq_false_iff.1 this), List.filter_nil, List.append_nil]

/-! ### bestCkpt -/

/-- what a frame offers to `bestCkpt T t`: (to_seq, frame seq, frame id) of a checkpoint up to `t` -/
def ckCand (t : Nat) (f : F) : Option (Nat × Nat × Nat) :=
  match f.kind with
  | .ckpt q => if q > t then none else some (q, f.seq, f.id)
  | _ => none

/-- greater to_seq, then the later frame -/
def ckBetter (c b : Nat × Nat × Nat) : Bool := c.1 > b.1 || (c.1 == b.1 && c.2.1 > b.2.1)

theorem ckBetter_eq_false {c b : Nat × Nat × Nat} :
    ckBetter c b = false ↔ c.1 ≤ b.1 ∧ (c.1 = b.1 → c.2.1 ≤ b.2.1) := by
  simp only [ckBetter, Bool.or_eq_false_iff, Bool.and_eq_false_imp, decide_eq_false_iff_not,
    beq_iff_eq, Nat.not_lt]

theorem ckBetter_asymm (a b : Nat × Nat × Nat) (h : ckBetter a b = true) : ckBetter b a = false := by
  rw [ckBetter_eq_false]
  simp only [ckBetter, Bool.or_eq_true, Bool.and_eq_true, decide_eq_true_eq, beq_iff_eq] at h
  rcases h with h | ⟨e, h⟩
  · exact ⟨Nat.le_of_lt h, fun e => absurd e (Nat.ne_of_lt h)⟩
  · exact ⟨Nat.le_of_eq e.symm, fun _ => Nat.le_of_lt h⟩

theorem ckBetter_ntrans (a b c : Nat × Nat × Nat) (hab : ckBetter a b = false) (hbc : ckBetter b c = false) :
    ckBetter a c = false := by
  obtain ⟨h1, h2⟩ := ckBetter_eq_false.1 hab
  obtain ⟨h3, h4⟩ := ckBetter_eq_false.1 hbc
  refine ckBetter_eq_false.2 ⟨Nat.le_trans h1 h3, fun e => ?_⟩
  have e1 : a.1 = b.1 := Nat.le_antisymm h1 (e ▸ h3)
  exact Nat.le_trans (h2 e1) (h4 (e1 ▸ e))

theorem ckCand_eq_some {t : Nat} {f : F} {q s i : Nat} :
    ckCand t f = some (q, s, i) ↔ f.kind = .ckpt q ∧ q ≤ t ∧ f.seq = s ∧ f.id = i := by
  constructor
  · fun_cases ckCand t f with
    | case1 => nofun
    | case2 q' hk h =>
      rintro ⟨⟩
      exact ⟨hk, Nat.le_of_not_gt h, rfl, rfl⟩
    | case3 => nofun
  · rintro ⟨hk, hle, rfl, rfl⟩
    rw [ckCand, hk]
    exact if_neg (Nat.not_lt_of_le hle)

theorem bestCkpt_eq (T : Thread) (t : Nat) :
    bestCkpt T t = (T.filterMap (ckCand t)).foldl (keepBetter ckBetter) none := by
  rw [List.foldl_filterMap]
  unfold bestCkpt
  congr 1
  funext best f
  fun_cases ckCand t f with
  | case1 q hk h =>
    rw [hk]
    exact if_pos h
  | case2 q hk h =>
    rw [hk]
    dsimp only
    rw [if_neg h]
    cases best <;> rfl
  | case3 hk =>
    split
    · next q hq => exact absurd hq (hk q)
    · rfl

theorem bestCkpt_append_other (T : Thread) (f : F) (t : Nat) (hk : ∀ q, f.kind ≠ .ckpt q) :
    bestCkpt (T ++ [f]) t = bestCkpt T t := by
  have hc : ckCand t f = none :=
    Option.eq_none_iff_forall_ne_some.2 fun c h => hk c.1 (ckCand_eq_some.1 h).1
  rw [bestCkpt_eq, bestCkpt_eq, List.filterMap_append, List.filterMap_cons_none hc, List.filterMap_nil,
    List.append_nil]

theorem bestCkpt_spec (T : Thread) (t : Nat) :
    match bestCkpt T t with
    | none => ∀ g ∈ T, ∀ q, g.kind = .ckpt q → t < q
    | some (q, s, i) => q ≤ t ∧ (∃ f ∈ T, f.kind = .ckpt q ∧ f.seq = s ∧ f.id = i) ∧
        ∀ g ∈ T, ∀ q', g.kind = .ckpt q' → q' ≤ t → q' ≤ q ∧ (q' = q → g.seq ≤ s) := by
  have h := foldl_keepBetter ckBetter ckBetter_asymm ckBetter_ntrans (T.filterMap (ckCand t))
  rw [← bestCkpt_eq] at h
  generalize bestCkpt T t = best at h ⊢
  rcases best with _ | ⟨q, s, i⟩
  · intro g hg q hk
    refine Nat.lt_of_not_le fun hle => ?_
    have : ckCand t g = none := List.filterMap_eq_nil_iff.1 h g hg
    rw [ckCand_eq_some.2 ⟨hk, hle, rfl, rfl⟩] at this
    cases this
  · obtain ⟨f, hf, hc⟩ := List.mem_filterMap.1 h.1
    obtain ⟨hk, hq, hs, hi⟩ := ckCand_eq_some.1 hc
    refine ⟨hq, ⟨f, hf, hk, hs, hi⟩, ?_⟩
    intro g hg q' hk' hq'
    have := h.2 (q', g.seq, g.id) (List.mem_filterMap.2 ⟨g, hg, ckCand_eq_some.2 ⟨hk', hq', rfl, rfl⟩⟩)
    exact ckBetter_eq_false.1 this

/-! ### mkCut -/

theorem mkCut_eq_some (T : Thread) (ord : Nat) (c : Cut) (h : mkCut T ord = some c) :
    ∃ m, (messages T)[ord - 1]? = some m ∧ c.ordinal = ord ∧ c.toSeq = m.seq ∧ c.msgId = m.id ∧
      c.already = (match bestCkpt T m.seq with | some (q, _, _) => q == m.seq | none => false) ∧
      c.latestCkpt = if c.already then (bestCkpt T m.seq).map (fun b => b.2.2) else none := by
  unfold mkCut at h
  split at h
  · cases h
  · next m hm =>
    cases h
    exact ⟨m, hm, rfl, rfl, rfl, rfl, rfl⟩

theorem mkCut_spec (T : Thread) (ord : Nat) (c : Cut) (h : mkCut T ord = some c) :
    (∃ m, (messages T)[c.ordinal - 1]? = some m ∧ c.ordinal = ord ∧ c.toSeq = m.seq ∧ c.msgId = m.id) ∧
    (c.already = true ↔ ∃ f ∈ T, f.kind = .ckpt c.toSeq) ∧
    (∀ i, c.latestCkpt = some i →
      ∃ f ∈ T, f.id = i ∧ f.kind = .ckpt c.toSeq ∧ ∀ g ∈ T, g.kind = .ckpt c.toSeq → g.seq ≤ f.seq) := by
  obtain ⟨m, hm, hord, hts, hid, hal, hlat⟩ := mkCut_eq_some T ord c h
  refine ⟨⟨m, hord ▸ hm, hord, hts, hid⟩, ?_⟩
  rw [hlat, hal, hts]
  have spec := bestCkpt_spec T m.seq
  generalize bestCkpt T m.seq = best at spec ⊢
  rcases best with _ | ⟨q, s, j⟩
  · refine ⟨⟨nofun, ?_⟩, nofun⟩
    rintro ⟨f, hf, hk⟩
    exact absurd (spec f hf m.seq hk) (Nat.lt_irrefl _)
  · obtain ⟨hq, ⟨f, hf, hk, rfl, rfl⟩, hmax⟩ := spec
    dsimp only
    -- `already` is `q == m.seq`; if so the recorded id is that of `f`, the best frame
    refine ⟨beq_iff_eq.trans ⟨?_, ?_⟩, fun i hi => ?_⟩
    · rintro rfl
      exact ⟨f, hf, hk⟩
    · rintro ⟨g, hg, hkg⟩
      exact Nat.le_antisymm hq (hmax g hg m.seq hkg (Nat.le_refl _)).1
    · obtain ⟨hqm, ⟨⟩⟩ := Option.ite_none_right_eq_some.1 hi
      obtain rfl : q = m.seq := beq_iff_eq.1 hqm
      exact ⟨f, hf, rfl, hk, fun g hg hkg => (hmax g hg _ hkg (Nat.le_refl _)).2 rfl⟩

theorem mkCut_ordinal (T : Thread) (ord : Nat) (h0 : ord ≠ 0) (hle : ord ≤ (messages T).length) :
    (mkCut T ord).map (·.ordinal) = some ord := by
  unfold mkCut
  rw [List.getElem?_eq_getElem (Nat.sub_one_lt_of_le (Nat.pos_of_ne_zero h0) hle)]
  rfl

theorem mkCut_append_other (T : Thread) (f : F) (ord : Nat)
    (hf : f.kind ≠ .message) (hk : ∀ q, f.kind ≠ .ckpt q) :
    mkCut (T ++ [f]) ord = mkCut T ord := by
  simp only [mkCut, messages_append_other T f hf, bestCkpt_append_other T f _ hk]

/-! ### cutPoints -/

theorem mem_cutPoints (T : Thread) (stride limit : Nat) (c : Cut) :
    c ∈ cutPoints T stride limit ↔
      ∃ i, i < clamp limit 1 32 ∧ ((messages T).length / stride) * stride - i * stride ≠ 0 ∧
        mkCut T (((messages T).length / stride) * stride - i * stride) = some c :=
  List.mem_filterMap.trans (exists_congr fun _ => and_congr List.mem_range Option.ite_none_left_eq_some)

theorem mkCut_of_mem_cutPoints {T : Thread} {stride limit : Nat} {c : Cut} (hc : c ∈ cutPoints T stride limit) :
    ∃ k, k * stride ≠ 0 ∧ k ≤ (messages T).length / stride ∧ mkCut T (k * stride) = some c := by
  obtain ⟨i, -, h0, h⟩ := (mem_cutPoints T stride limit c).1 hc
  rw [← Nat.sub_mul] at h0 h
  exact ⟨_, h0, Nat.sub_le _ _, h⟩

theorem already_iff (T : Thread) (stride limit : Nat) (c : Cut) (hc : c ∈ cutPoints T stride limit) :
    c.already = true ↔ ∃ f ∈ T, f.kind = .ckpt c.toSeq := by
  obtain ⟨k, -, -, h⟩ := mkCut_of_mem_cutPoints hc
  exact (mkCut_spec T _ c h).2.1

theorem latest_wins (T : Thread) (stride limit : Nat) (c : Cut) (hc : c ∈ cutPoints T stride limit)
    (i : Nat) (hi : c.latestCkpt = some i) :
    ∃ f ∈ T, f.id = i ∧ f.kind = .ckpt c.toSeq ∧ ∀ g ∈ T, g.kind = .ckpt c.toSeq → g.seq ≤ f.seq := by
  obtain ⟨k, -, -, h⟩ := mkCut_of_mem_cutPoints hc
  exact (mkCut_spec T _ c h).2.2 i hi

/-- every cut point is a `k · stride`-th message (no hypothesis on `stride`: `cutPoints T 0 limit = []`) -/
theorem mem_cutPoints_kth_message {T : Thread} {stride limit : Nat} {c : Cut}
    (hc : c ∈ cutPoints T stride limit) :
    ∃ k, 0 < k ∧ c.ordinal = k * stride ∧ c.ordinal ≤ (messages T).length ∧
      ∃ m, (messages T)[c.ordinal - 1]? = some m ∧ c.toSeq = m.seq ∧ c.msgId = m.id := by
  obtain ⟨k, h0, hk, h⟩ := mkCut_of_mem_cutPoints hc
  obtain ⟨⟨m, hm, hord, hts, hid⟩, -⟩ := mkCut_spec T _ c h
  refine ⟨k, Nat.pos_of_ne_zero (Nat.mul_ne_zero_iff.1 h0).1, hord, ?_, m, hm, hts, hid⟩
  rw [hord]
  exact Nat.le_trans (Nat.mul_le_mul_right _ hk) (Nat.div_mul_le_self _ _)

theorem cut_is_kth_message (T : Thread) (stride limit : Nat) (hs : 0 < stride) (c : Cut)
    (hc : c ∈ cutPoints T stride limit) :
    ∃ k, 0 < k ∧ c.ordinal = k * stride ∧ c.ordinal ≤ (messages T).length ∧
      ∃ m, (messages T)[c.ordinal - 1]? = some m ∧ c.toSeq = m.seq ∧ c.msgId = m.id :=
  have _ := hs
  mem_cutPoints_kth_message hc

theorem cut_count_bounded (T : Thread) (stride limit : Nat) : (cutPoints T stride limit).length ≤ 32 := by
  unfold cutPoints
  refine Nat.le_trans (List.length_filterMap_le _ _) ?_
  rw [List.length_range]
  exact clamp_le_hi _ _ _

theorem cut_ordinals (T : Thread) (stride limit : Nat) :
    (cutPoints T stride limit).map (·.ordinal) =
      ((List.range (clamp limit 1 32)).map
        (fun i => ((messages T).length / stride) * stride - i * stride)).filter (· ≠ 0) := by
  unfold cutPoints
  rw [List.map_filterMap, ← List.filterMap_eq_filter, List.filterMap_map]
  congr 1
  funext i
  -- a positive ordinal is at most the message count, so `mkCut` finds its message
  by_cases h0 : (messages T).length / stride * stride - i * stride = 0
  · simp [h0, Option.guard]
  · simp only [h0, if_false, Function.comp, Option.guard, ne_eq, not_false_eq_true, decide_true, if_true]
    exact mkCut_ordinal T _ h0 (Nat.le_trans (Nat.sub_le _ _) (Nat.div_mul_le_self _ _))

theorem cuts_ignore_other_frames (T : Thread) (stride limit : Nat) (f : F)
    (hf : f.kind ≠ .message) (hk : ∀ q, f.kind ≠ .ckpt q) :
    cutPoints (T ++ [f]) stride limit = cutPoints T stride limit := by
  -- `cutPoints` reads the thread through `messages` and `mkCut` only, and `f` is invisible to both
  unfold cutPoints
  simp only [messages_append_other T f hf, mkCut_append_other T f _ hf hk]

/-! ### plan -/

theorem plan_exact (T : Thread) (stride maxNew : Nat) :
    plan T stride maxNew =
      ((cutPoints T stride 32).filter (fun c => !c.already)).take (clamp maxNew 1 32) ∧
    (plan T stride maxNew).length ≤ 32 ∧ ∀ c ∈ plan T stride maxNew, c.already = false := by
  refine ⟨rfl, ?_, fun c hc => ?_⟩
  · unfold plan
    rw [List.length_take]
    exact Nat.le_trans (Nat.min_le_left _ _) (clamp_le_hi _ _ _)
  · exact (Bool.not_eq_true' _).mp (List.mem_filter.1 (List.mem_of_mem_take hc)).2

theorem plan_subset_cutPoints (T : Thread) (stride maxNew : Nat) (c : Cut)
    (hc : c ∈ plan T stride maxNew) : c ∈ cutPoints T stride 32 :=
  (List.mem_filter.1 (List.mem_of_mem_take hc)).1

/-! ### sortCuts -/

theorem insertCut_perm (c : Cut) (l : List Cut) : (insertCut c l).Perm (c :: l) := by
  fun_induction insertCut c l with
  | case1 => exact List.Perm.refl _
  | case2 d ds h => exact List.Perm.refl _
  | case3 d ds h ih => exact ((List.perm_cons d).mpr ih).trans (List.Perm.swap c d ds)

theorem sortCuts_perm (cs : List Cut) : (sortCuts cs).Perm cs := by
  induction cs with
  | nil => exact List.Perm.refl _
  | cons c cs ih =>
    show (insertCut c (sortCuts cs)).Perm (c :: cs)
    exact (insertCut_perm c _).trans ((List.perm_cons c).mpr ih)

theorem sortCuts_length (cs : List Cut) : (sortCuts cs).length = cs.length :=
  (sortCuts_perm cs).length_eq

/-- order key of the job's creation order -/
def cutLe (c d : Cut) : Prop := c.toSeq < d.toSeq ∨ (c.toSeq = d.toSeq ∧ c.msgId ≤ d.msgId)

theorem cutLe_trans {a b c : Cut} (h1 : cutLe a b) (h2 : cutLe b c) : cutLe a c := by
  rcases h1 with h1 | ⟨e1, h1⟩
  · exact .inl (h2.elim (Nat.lt_trans h1) fun h => h.1 ▸ h1)
  · rw [cutLe, e1]
    exact h2.imp_right fun h => ⟨h.1, Nat.le_trans h1 h.2⟩

theorem cutLe_total {a b : Cut} (h : ¬ cutLe a b) : cutLe b a := by
  have hle : b.toSeq ≤ a.toSeq := Nat.le_of_not_lt fun hlt => h (.inl hlt)
  exact (Nat.lt_or_eq_of_le hle).imp_right fun e => ⟨e, Nat.le_of_not_le fun h' => h (.inr ⟨e.symm, h'⟩)⟩

theorem cutLe_iff (c d : Cut) :
    (decide (c.toSeq < d.toSeq) || (c.toSeq == d.toSeq && decide (c.msgId ≤ d.msgId))) = true ↔ cutLe c d := by
  simp only [cutLe, Bool.or_eq_true, Bool.and_eq_true, decide_eq_true_eq, beq_iff_eq]

theorem insertCut_sorted (c : Cut) (l : List Cut) (h : l.Pairwise cutLe) :
    (insertCut c l).Pairwise cutLe := by
  fun_induction insertCut c l with
  | case1 => exact List.pairwise_singleton _ _
  | case2 d ds hc =>
    have hcd : cutLe c d := (cutLe_iff c d).1 hc
    refine List.pairwise_cons.2 ⟨fun x hx => ?_, h⟩
    rcases List.mem_cons.1 hx with rfl | hx
    · exact hcd
    · exact cutLe_trans hcd (List.rel_of_pairwise_cons h hx)
  | case3 d ds hc ih =>
    have hdc : cutLe d c := cutLe_total (fun hcd => hc ((cutLe_iff c d).2 hcd))
    refine List.pairwise_cons.2 ⟨fun x hx => ?_, ih (List.pairwise_cons.1 h).2⟩
    rcases List.mem_cons.1 ((insertCut_perm c ds).mem_iff.1 hx) with rfl | hx
    · exact hdc
    · exact List.rel_of_pairwise_cons h hx

theorem sortCuts_sorted (cs : List Cut) : (sortCuts cs).Pairwise cutLe := by
  induction cs with
  | nil => exact List.Pairwise.nil
  | cons c cs ih => exact insertCut_sorted c _ ih

/-! ### jobFrames -/

theorem jobFrames_kinds (next : Nat) (fresh : Nat → Nat) (job : Nat) (p : List Cut) :
    (jobFrames next fresh job p).map (·.kind) =
      (sortCuts p).map (fun c => K.ckpt c.toSeq) ++ [.jobEnded job] := by
  unfold jobFrames
  rw [List.map_append, map_mapIdx_of (fun x : F => x.kind) (fun c => K.ckpt c.toSeq) (fun _ _ => rfl)]
  rfl

theorem jobFrames_seqs (next : Nat) (fresh : Nat → Nat) (job : Nat) (p : List Cut) :
    (jobFrames next fresh job p).map (·.seq) = List.range' next (jobFrames next fresh job p).length := by
  unfold jobFrames
  rw [List.length_append, List.length_mapIdx, List.length_singleton, List.map_append,
    map_mapIdx_add (fun x : F => x.seq) next (fun _ _ => rfl), List.range'_concat, Nat.one_mul]
  rfl

/-! ### auto -/

theorem auto_noop_or_dry_run_silent (T : Thread) (fresh : Nat → Nat) (job stride maxNew : Nat) (dry : Bool)
    (h : plan T stride maxNew = [] ∨ dry = true) : (auto T fresh job stride maxNew dry).2.2 = [] := by
  fun_cases auto T fresh job stride maxNew dry with
  | case1 => rfl
  | case2 p hp =>
    rcases h with h | h
    · simp [p, h] at hp
    · simp [h] at hp

theorem auto_frames_run (T : Thread) (fresh : Nat → Nat) (job stride maxNew : Nat)
    (hne : plan T stride maxNew ≠ []) :
    (auto T fresh job stride maxNew false).2.2 =
      ({ id := fresh 1000, seq := headSeq T, kind := .jobSpawned job } : F) ::
        jobFrames (headSeq T + 1) fresh job (plan T stride maxNew) := by
  fun_cases auto T fresh job stride maxNew false with
  | case1 p hp => simp [p, hne] at hp
  | case2 => rfl

theorem auto_kinds (T : Thread) (fresh : Nat → Nat) (job stride maxNew : Nat)
    (hne : plan T stride maxNew ≠ []) :
    ((auto T fresh job stride maxNew false).2.2).map (·.kind) =
      .jobSpawned job :: ((sortCuts (plan T stride maxNew)).map (fun c => K.ckpt c.toSeq) ++ [.jobEnded job]) := by
  rw [auto_frames_run T fresh job stride maxNew hne, List.map_cons, jobFrames_kinds]

/-- auto creates precisely the planned checkpoints, bracketed by one job-spawned and one job-ended frame -/
theorem auto_creates_plan (T : Thread) (fresh : Nat → Nat) (job stride maxNew : Nat)
    (hne : plan T stride maxNew ≠ []) :
    let fs := (auto T fresh job stride maxNew false).2.2
    fs.head?.map (·.kind) = some (.jobSpawned job) ∧ fs.getLast?.map (·.kind) = some (.jobEnded job) ∧
    (fs.filter (fun f => match f.kind with | .ckpt _ => true | _ => false)).map (·.kind) =
      (sortCuts (plan T stride maxNew)).map (fun c => K.ckpt c.toSeq) ∧
    fs.length = (plan T stride maxNew).length + 2 ∧
    (fs.filter (fun f => f.kind == .jobSpawned job)).length = 1 ∧
    (fs.filter (fun f => f.kind == .jobEnded job)).length = 1 := by
  intro fs
  have hk : fs.map (·.kind) = _ := auto_kinds T fresh job stride maxNew hne
  -- every conjunct speaks of `fs` through its list of kinds, and the middle part holds checkpoints only
  have hfilter : ∀ P : K → Bool, (fs.filter (fun f => P f.kind)).map (·.kind) = (fs.map (·.kind)).filter P :=
    fun P => (List.filter_map (f := fun f : F => f.kind)).symm
  have hnone : ∀ k : K, (∀ q, k ≠ .ckpt q) →
      ((sortCuts (plan T stride maxNew)).map (fun c => K.ckpt c.toSeq)).filter (· == k) = [] :=
    fun k hk => List.filter_eq_nil_iff.2 (List.forall_mem_map.2 fun c _ h => hk _ (eq_of_beq h).symm)
  refine ⟨?_, ?_, ?_, ?_, ?_, ?_⟩
  · rw [← List.head?_map, hk]
    rfl
  · rw [← List.getLast?_map, hk, ← List.cons_append, List.getLast?_concat]
  · rw [hfilter (fun k => match k with | .ckpt _ => true | _ => false), hk, List.filter_cons_of_neg (by simp),
      List.filter_append, List.filter_cons_of_neg (by simp), List.filter_nil, List.append_nil]
    exact List.filter_eq_self.2 (List.forall_mem_map.2 fun _ _ => rfl)
  · rw [← List.length_map (f := fun f : F => f.kind), hk]
    simp only [List.length_cons, List.length_append, List.length_map, sortCuts_length, List.length_nil]
  · rw [← List.length_map (f := fun f : F => f.kind), hfilter (· == .jobSpawned job), hk,
      List.filter_cons_of_pos (by simp), List.filter_append, hnone (.jobSpawned job) nofun,
      List.filter_cons_of_neg (by simp)]
    rfl
  · rw [← List.length_map (f := fun f : F => f.kind), hfilter (· == .jobEnded job), hk,
      List.filter_cons_of_neg (by simp), List.filter_append, hnone (.jobEnded job) nofun,
      List.filter_cons_of_pos (by simp)]
    rfl

theorem auto_seqs_contiguous (T : Thread) (fresh : Nat → Nat) (job stride maxNew : Nat) (dry : Bool) :
    ((auto T fresh job stride maxNew dry).2.2).map (·.seq) =
      List.range' (headSeq T) ((auto T fresh job stride maxNew dry).2.2).length := by
  fun_cases auto T fresh job stride maxNew dry with
  | case1 => rfl
  | case2 =>
    simp only [List.map_cons, List.length_cons, jobFrames_seqs, List.range'_succ]
    rfl

/-- so the same plan is not made again: replay-safe -/
theorem auto_then_done (T : Thread) (fresh : Nat → Nat) (job stride maxNew : Nat) (c : Cut)
    (hc : c ∈ plan T stride maxNew) :
    ∃ f ∈ T ++ (auto T fresh job stride maxNew false).2.2, f.kind = .ckpt c.toSeq := by
  have hk : K.ckpt c.toSeq ∈ ((auto T fresh job stride maxNew false).2.2).map (·.kind) := by
    rw [auto_kinds T fresh job stride maxNew (List.ne_nil_of_mem hc)]
    exact List.mem_cons_of_mem _ (List.mem_append_left _
      (List.mem_map_of_mem (f := fun c : Cut => K.ckpt c.toSeq) ((sortCuts_perm _).mem_iff.2 hc)))
  obtain ⟨f, hf, e⟩ := List.mem_map.1 hk
  exact ⟨f, List.mem_append_right _ hf, e⟩

/-! ### scheduler -/

/-- noop and dry run append nothing -/
theorem schedule_noop_or_dry_run_silent (T : Thread) (fresh : Nat → Nat) (job stride maxNew : Nat) (b e d : Bool)
    (h : plan T stride maxNew = [] ∨ d = true) : (schedule T fresh job stride maxNew b e d).2.2 = [] := by
  unfold schedule
  dsimp only
  rcases h with h | rfl
  · rw [h]
    rfl
  · cases (plan T stride maxNew).isEmpty <;> rfl

/-- an in-flight job (when blocking) yields exactly one decision frame -/
theorem schedule_skipped (T : Thread) (fresh : Nat → Nat) (job stride maxNew : Nat) (e : Bool) (j : Nat)
    (hne : plan T stride maxNew ≠ []) (hj : inflight T = some j) :
    (schedule T fresh job stride maxNew true e false).1 = .skippedInflight ∧
    ((schedule T fresh job stride maxNew true e false).2.2).map (·.kind) = [.decided] := by
  unfold schedule
  dsimp only
  rw [List.isEmpty_eq_false_iff.2 hne, hj]
  exact ⟨rfl, rfl⟩

theorem schedule_spawns (T : Thread) (fresh : Nat → Nat) (job stride maxNew : Nat) (b e : Bool)
    (hne : plan T stride maxNew ≠ []) (hj : b = false ∨ inflight T = none) :
    (((schedule T fresh job stride maxNew b e false).2.2).take 2).map (·.kind) =
      [.jobSpawned job, .decided] := by
  have hi : (if b = true then inflight T else none) = none := by
    rcases hj with rfl | h
    · rfl
    · rw [h]
      exact ite_self _
  unfold schedule
  dsimp only
  rw [List.isEmpty_eq_false_iff.2 hne, hi]
  cases e <;> rfl

end Rip.Compaction
