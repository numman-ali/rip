import Rip.Model.LogBytes
/-!
C02 / C08: the truth log as bytes. An append only extends the log and leaves it in whole
lines. After a newline `linesOf` starts afresh (`linesOf_go_nl_append`), so the lines of a log of
whole lines do not depend on what follows it (`linesOf_append`): a fragment without a newline adds
no line, a frame with its newline adds exactly that line.
-/
namespace Rip.LogBytes
open Rip.Proto

theorem appendLine_prefix (log line : Bytes) : log <+: appendLine log line := by
  unfold appendLine
  rw [List.append_assoc]
  exact List.prefix_append _ _

theorem appendAll_prefix (log : Bytes) (ls : List Bytes) : log <+: appendAll log ls := by
  induction ls generalizing log with
  | nil => exact List.prefix_refl _
  | cons l ls ih =>
    exact List.IsPrefix.trans (appendLine_prefix log l) (ih (appendLine log l))

theorem appendLine_whole (log line : Bytes) : WholeLines (appendLine log line) := by
  right
  unfold appendLine
  simp

theorem appendAll_whole (log : Bytes) (ls : List Bytes) (h : WholeLines log) : WholeLines (appendAll log ls) := by
  induction ls generalizing log with
  | nil => exact h
  | cons l ls ih => exact ih _ (appendLine_whole log l)

theorem linesOf_go_noNl (a rest cur : Bytes) (h : NoNl a) :
    linesOf.go (a ++ rest) cur = linesOf.go rest (a.reverse ++ cur) := by
  induction a generalizing cur with
  | nil => rfl
  | cons x xs ih =>
    obtain ⟨hx, hxs⟩ := List.forall_mem_cons.mp h
    rw [List.cons_append, linesOf.go, if_neg hx, ih _ hxs, List.reverse_cons, List.append_assoc]
    rfl

theorem linesOf_go_nl_append (a rest cur : Bytes) :
    linesOf.go (a ++ 10 :: rest) cur = linesOf.go (a ++ [10]) cur ++ linesOf.go rest [] := by
  induction a generalizing cur with
  | nil => rfl
  | cons x xs ih =>
    simp only [List.cons_append, linesOf.go]
    split
    · rw [ih]; rfl
    · exact ih _

theorem linesOf_append (log rest : Bytes) (hw : WholeLines log) :
    linesOf (log ++ rest) = linesOf log ++ linesOf rest := by
  rcases hw with rfl | h
  · rfl
  · obtain ⟨a, rfl⟩ := List.getLast?_eq_some_iff.1 h
    unfold linesOf
    rw [List.append_assoc]
    exact linesOf_go_nl_append a rest []

theorem linesOf_noNl (frag : Bytes) (hf : NoNl frag) : linesOf frag = [] := by
  rw [← List.append_nil frag]
  exact linesOf_go_noNl frag [] [] hf

theorem linesOf_line (line : Bytes) (hn : NoNl line) : linesOf (line ++ [10]) = [line] := by
  refine (linesOf_go_noNl line [10] [] hn).trans ?_
  simp [linesOf.go]

/-- **A frame whose append is in flight is invisible to a reader**: whatever prefix of its body (no
newline yet) is already in the file behind a log of whole lines, the lines a reader gets are those
of the log before the append began. -/
theorem linesOf_inflight (log frag : Bytes) (hw : WholeLines log) (hf : NoNl frag) :
    linesOf (log ++ frag) = linesOf log := by
  rw [linesOf_append log frag hw, linesOf_noNl frag hf, List.append_nil]

theorem linesOf_appendLine (log line : Bytes) (hw : WholeLines log) (hn : NoNl line) :
    linesOf (appendLine log line) = linesOf log ++ [line] := by
  unfold appendLine
  rw [List.append_assoc, linesOf_append log _ hw, linesOf_line line hn]

end Rip.LogBytes
