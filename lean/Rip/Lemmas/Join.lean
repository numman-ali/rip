import Rip.Model.Join
import Rip.Lemmas.Basic
/-!
C06: the history/live join. The invariant is indexed by a table read off the micro-program (`tabOf`):
the join is exact for every program that publishes and records each frame once (`Once`) and never
has the lock free between a publish and its record (`Tab.Safe`).
-/
namespace Rip.Join
open Rip.Basic

/-- history `0..h-1`; live = the published `0..n-1` minus the first `k` -/
theorem join_lists (n h k : Nat) (hk : k ≤ h) (hn : h ≤ n) :
    (match (List.range h).getLast? with
     | none => List.range h ++ (List.range n).drop k
     | some last => List.range h ++ ((List.range n).drop k).filter (fun x => x > last)) = List.range n := by
  cases h with
  | zero =>
    cases Nat.le_zero.mp hk
    rfl
  | succ h' =>
    obtain ⟨d, rfl⟩ := Nat.exists_eq_add_of_le hn
    rw [List.range_succ, List.getLast?_concat, ← List.range_succ]
    show List.range (h' + 1) ++ ((List.range (h' + 1 + d)).drop k).filter (fun x => x > h') = _
    -- of the live frames, those in the history are filtered out and those after it are kept
    rw [List.range_add (n := h' + 1), List.drop_append_of_le_length (by rw [List.length_range]; exact hk),
      List.filter_append, List.filter_eq_nil_iff.mpr, List.filter_eq_self.mpr, List.nil_append]
    · exact List.forall_mem_map.mpr fun i _ => decide_eq_true (Nat.lt_add_right i (Nat.lt_succ_self h'))
    · intro x hx hgt
      exact Nat.not_lt.mpr (Nat.le_of_lt_succ (List.mem_range.mp (List.mem_of_mem_drop hx))) (of_decide_eq_true hgt)

/-! ### the invariant -/

/-- `A p` / `B p` = 1 iff at micro-position `p` the current frame has already been
published / recorded; `H p` = the lock is held at position `p`; `L` = program length -/
structure Tab where
  A : Nat → Nat
  B : Nat → Nat
  H : Nat → Bool
  L : Nat

def Inv (T : Tab) (n : Nat) (s : S) : Prop :=
  s.frame ≤ n ∧ s.pos < T.L ∧ (s.frame = n → s.pos = 0) ∧
  s.published = List.range (s.frame + T.A s.pos) ∧
  s.recorded = List.range (s.frame + T.B s.pos) ∧
  s.held = T.H s.pos ∧ s.spc ≤ 2 ∧
  (1 ≤ s.spc → s.subAt ≤ s.frame + T.A s.pos) ∧
  (s.spc = 2 → ∃ h, s.history = List.range h ∧ h ≤ s.frame + T.B s.pos ∧ s.subAt ≤ h)

/-- a table is join-safe when the snapshot can only see "recorded ⊇ published" -/
structure Tab.Safe (T : Tab) : Prop where
  a0 : T.A 0 = 0
  b0 : T.B 0 = 0
  h0 : T.H 0 = false
  l0 : 0 < T.L
  ab : ∀ p, p < T.L → T.H p = false → T.A p ≤ T.B p

theorem inv_init (T : Tab) (hT : T.Safe) (n : Nat) : Inv T n init := by
  simp [Inv, init, hT.a0, hT.b0, hT.h0, hT.l0]

theorem inv_sub (T : Tab) (hT : T.Safe) (prog : List Micro) (n : Nat) (s : S) (h : Inv T n s) :
    Inv T n (step prog n s .subscriber) := by
  obtain ⟨h1, h2, h3, h4, h5, h6, h7, h8, h9⟩ := id h  -- `id` keeps `h`
  rw [step]
  split
  · -- subscribes: `subAt` is the number of frames published so far
    refine ⟨h1, h2, h3, h4, h5, h6, Nat.le_succ 1, fun _ => Nat.le_of_eq ?_, nofun⟩
    exact (congrArg List.length h4).trans List.length_range
  · rename_i h0
    split
    · exact h
    · -- takes the snapshot: the lock is free, so everything published is recorded
      rename_i hh
      have hab := hT.ab _ h2 (h6 ▸ eq_false_of_ne_true hh)
      have hsub := h8 (Nat.le_of_eq h0.symm)
      refine ⟨h1, h2, h3, h4, h5, h6, Nat.le_refl 2, fun _ => hsub, fun _ => ?_⟩
      exact ⟨s.frame + T.B s.pos, h5, Nat.le_refl _, Nat.le_trans hsub (Nat.add_le_add_left hab _)⟩
  · exact h

/-! ### the table of a program -/

def heldAfter (ms : List Micro) : Bool :=
  ms.foldl (fun h m => match m with | .lock => true | .unlock => false | _ => h) false

def tabOf (prog : List Micro) : Tab :=
  ⟨fun p => (prog.take p).count .pub, fun p => (prog.take p).count .record,
   fun p => heldAfter (prog.take p), prog.length⟩

structure Once (prog : List Micro) : Prop where
  pub1 : prog.count .pub = 1
  rec1 : prog.count .record = 1
  free : heldAfter prog = false

theorem heldAfter_snoc (ms : List Micro) (m : Micro) :
    heldAfter (ms ++ [m]) = match m with | .lock => true | .unlock => false | _ => heldAfter ms := by
  simp only [heldAfter, List.foldl_append, List.foldl_cons, List.foldl_nil]

/-- if the micro-step at `s.pos` establishes the table entries of `s.pos + 1`, moving on (inside the
program, or to the next frame at its end) keeps the invariant -/
theorem inv_advance {prog : List Micro} (hb : Once prog) {n : Nat} {s : S}
    (h : Inv (tabOf prog) n s) (hf : s.frame < n) {hd' : Bool} {pb' rc' : List Nat}
    (h4 : pb' = List.range (s.frame + (tabOf prog).A (s.pos + 1)))
    (h5 : rc' = List.range (s.frame + (tabOf prog).B (s.pos + 1)))
    (h6 : hd' = (tabOf prog).H (s.pos + 1)) :
    Inv (tabOf prog) n
      (if s.pos + 1 ≥ prog.length then
        { s with held := hd', published := pb', recorded := rc', frame := s.frame + 1, pos := 0 }
       else { s with held := hd', published := pb', recorded := rc', pos := s.pos + 1 }) := by
  obtain ⟨_, h2, _, _, _, _, h7, h8, h9⟩ := h
  -- the counts of a longer prefix are larger
  have mono := fun x : Micro => (List.take_sublist_take_left (l := prog) (Nat.le_succ s.pos)).count_le x
  have h8' : 1 ≤ s.spc → s.subAt ≤ s.frame + (tabOf prog).A (s.pos + 1) :=
    fun hs => Nat.le_trans (h8 hs) (Nat.add_le_add_left (mono _) _)
  have h9' : s.spc = 2 → ∃ h, s.history = List.range h ∧ h ≤ s.frame + (tabOf prog).B (s.pos + 1) ∧
      s.subAt ≤ h := fun hs =>
    (h9 hs).imp fun _ ⟨a, b, c⟩ => ⟨a, Nat.le_trans b (Nat.add_le_add_left (mono _) _), c⟩
  split
  · -- the end of the program: everything of this frame is out, the lock is free
    have hL : prog.take (s.pos + 1) = prog :=
      (congrArg prog.take (Nat.le_antisymm h2 ‹_›)).trans List.take_length
    simp only [tabOf, hL, hb.pub1, hb.rec1, hb.free] at h4 h5 h6 h8' h9'
    exact ⟨hf, Nat.zero_lt_of_lt h2, fun _ => rfl, h4, h5, h6, h7, h8', h9'⟩
  · exact ⟨Nat.le_of_lt hf, Nat.lt_of_not_le ‹_›, fun hfn => absurd hfn (Nat.ne_of_lt hf),
      h4, h5, h6, h7, h8', h9'⟩

theorem inv_prod_of {prog : List Micro} (hb : Once prog) (n : Nat) (s : S)
    (h : Inv (tabOf prog) n s) : Inv (tabOf prog) n (step prog n s .producer) := by
  have hL : s.pos < prog.length := h.2.1
  by_cases hn : s.frame ≥ n
  · rw [step, if_pos hn]
    exact h
  rw [step, if_neg hn, List.getElem?_eq_getElem hL]
  have hf : s.frame < n := Nat.lt_of_not_le hn
  have ht := List.take_succ_eq_append_getElem hL
  have hp := hb.pub1 ▸ (List.take_sublist (s.pos + 1) prog).count_le Micro.pub
  have hr := hb.rec1 ▸ (List.take_sublist (s.pos + 1) prog).count_le Micro.record
  obtain ⟨_, _, _, h4, h5, h6, _⟩ := id h  -- `id` keeps `h`
  generalize prog[s.pos] = m at ht
  -- the counts at `s.pos + 1` are those at `s.pos` plus those of `[m]`
  have hc := fun x : Micro => (congrArg (List.count x) ht).trans List.count_append
  have hH : (tabOf prog).H (s.pos + 1) = _ := (congrArg heldAfter ht).trans (heldAfter_snoc _ m)
  -- a step that does not publish (record) leaves the count alone; one that does finds it at 0
  have keep : ∀ {l : List Nat} {a a' : Nat}, a' = a + 0 → l = List.range (s.frame + a) →
      l = List.range (s.frame + a') := fun e hl => e ▸ hl
  have push : ∀ {l : List Nat} {a a' : Nat}, a' = a + 1 → a' ≤ 1 → l = List.range (s.frame + a) →
      l ++ [s.frame] = List.range (s.frame + a') := fun e h1 hl => by
    subst e
    cases Nat.le_zero.mp (Nat.le_of_succ_le_succ h1)
    rw [hl]
    exact List.range_succ.symm
  cases m with
  | lock | unlock => exact inv_advance hb h hf (keep (hc .pub) h4) (keep (hc .record) h5) hH.symm
  | pub => exact inv_advance hb h hf (push (hc .pub) hp h4) (keep (hc .record) h5) (h6.trans hH.symm)
  | record => exact inv_advance hb h hf (keep (hc .pub) h4) (push (hc .record) hr h5) (h6.trans hH.symm)

def Tracks (prog : List Micro) (T : Tab) : Prop :=
  T.Safe ∧ T.L = prog.length ∧ ∀ n s, Inv T n s → Inv T n (step prog n s .producer)

theorem tracks_of {prog : List Micro} (hb : Once prog) (hs : (tabOf prog).Safe) :
    Tracks prog (tabOf prog) := ⟨hs, rfl, inv_prod_of hb⟩

theorem inv_step {prog : List Micro} {T : Tab} (hT : Tracks prog T) (n : Nat) (s : S) (w : Who)
    (h : Inv T n s) : Inv T n (step prog n s w) := by
  cases w with
  | producer => exact hT.2.2 n s h
  | subscriber => exact inv_sub T hT.1 prog n s h

theorem inv_run {prog : List Micro} {T : Tab} (hT : Tracks prog T) (n : Nat) (sched : List Who) :
    Inv T n (run prog n sched) :=
  foldl_inv (f := step prog n) (P := Inv T n) (fun s w => inv_step hT n s w) sched init
    (inv_init T hT.1 n)

theorem complete_iff {n : Nat} {s : S} : complete n s = true ↔ s.frame ≥ n ∧ s.spc = 2 := by
  simp [complete]

theorem inv_complete_output {T : Tab} (hT : T.Safe) {n : Nat} {s : S} (h : Inv T n s)
    (hc : complete n s = true) : output s = List.range n := by
  obtain ⟨h1, _, h3, h4, _, _, _, _, h9⟩ := h
  obtain ⟨hf, hs⟩ := complete_iff.mp hc
  have hfn : s.frame = n := Nat.le_antisymm h1 hf
  obtain ⟨h, hh, hle, hsub⟩ := h9 hs
  rw [h3 hfn, hT.b0, hfn] at hle
  rw [h3 hfn, hT.a0, hfn] at h4
  unfold output
  rw [hh, h4]
  exact join_lists n h s.subAt hsub hle

theorem join_exact_of {prog : List Micro} (hb : Once prog) (hs : (tabOf prog).Safe) (n : Nat)
    (sched : List Who) (hc : complete n (run prog n sched) = true) :
    output (run prog n sched) = List.range n :=
  inv_complete_output hs (inv_run (tracks_of hb hs) n sched) hc

theorem safe_once (prog : List Micro) (hp : prog ∈ safeShapes) : Once prog ∧ (tabOf prog).Safe := by
  simp only [safeShapes, List.mem_cons, List.not_mem_nil, or_false] at hp
  rcases hp with rfl | rfl | rfl <;>
    exact ⟨⟨by decide, by decide, by decide⟩, ⟨rfl, rfl, rfl, by decide, by decide⟩⟩

/-- For each join-safe emit order, for every number of frames and EVERY interleaving of producer and
subscriber steps (every attach moment relative to every emission): once the producer has emitted
all n frames and the subscriber has taken its snapshot, the subscriber delivers every frame exactly
once, in order: 0, 1, …, n-1. -/
theorem join_exact (prog : List Micro) (hp : prog ∈ safeShapes) (n : Nat) (sched : List Who)
    (hc : complete n (run prog n sched) = true) :
    output (run prog n sched) = List.range n := by
  obtain ⟨hb, hs⟩ := safe_once prog hp
  exact join_exact_of hb hs n sched hc

/-! ### the producer does not depend on the subscriber -/

/-- the state with the subscriber put back to its start -/
def prodView (s : S) : S := { s with spc := 0, subAt := 0, history := [] }

theorem prodView_sub (prog : List Micro) (n : Nat) (s : S) :
    prodView (step prog n s .subscriber) = prodView s := by
  rw [step]
  split
  · rfl
  · split <;> rfl
  · rfl

theorem prodView_prod (prog : List Micro) (n : Nat) (s : S) :
    prodView (step prog n s .producer) = step prog n (prodView s) .producer := by
  rw [step, step, apply_ite prodView]
  -- the right side tests the same `frame` and `pos`
  show _ = if s.frame ≥ n then prodView s else match prog[s.pos]? with | none => _ | some m => _
  cases prog[s.pos]? with
  | none => rfl
  | some m =>
    -- with `m` known, both sides are an `if` on the position over two records
    cases m <;> exact congrArg _ (apply_ite prodView ..)

/-- removing the subscriber's steps from a schedule leaves the producer's fields unchanged, so any
number of concurrent subscribers, each a copy of the subscriber actor, see the same producer -/
theorem producer_independent (prog : List Micro) (n : Nat) (sched : List Who) :
    let a := run prog n sched
    let b := run prog n (sched.filter (· == .producer))
    a.frame = b.frame ∧ a.pos = b.pos ∧ a.held = b.held ∧ a.published = b.published ∧ a.recorded = b.recorded := by
  intro a b
  -- the filtered run is the image of the full one under `prodView`: the producer's steps commute
  -- with it, the subscriber's vanish
  have h : b = prodView a := by
    show List.foldl _ (prodView init) _ = prodView (List.foldl _ _ _)
    rw [List.foldl_filter]
    refine List.foldl_hom prodView fun s w => ?_
    cases w
    · exact (prodView_prod prog n s).symm
    · exact (prodView_sub prog n s).symm
  rw [h]
  exact ⟨rfl, rfl, rfl, rfl, rfl⟩

/-! ### the subscriber can always complete -/

theorem prod_measure (prog : List Micro) (n : Nat) (s : S) (hL : s.pos < prog.length) (hf : s.frame < n) :
    (step prog n s .producer).pos < prog.length ∧
    (step prog n s .producer).frame * prog.length + (step prog n s .producer).pos
      = s.frame * prog.length + s.pos + 1 := by
  rw [step, if_neg (Nat.not_le_of_gt hf), List.getElem?_eq_getElem hL]
  dsimp only
  by_cases hl : s.pos + 1 ≥ prog.length
  · -- the last micro-step of a frame
    rw [if_pos hl]
    refine ⟨Nat.zero_lt_of_lt hL, ?_⟩
    show (s.frame + 1) * prog.length + 0 = _
    rw [Nat.succ_mul, Nat.le_antisymm hl hL]
    rfl
  · -- any other: the micro-step itself leaves `frame` alone
    rw [if_neg hl]
    refine ⟨Nat.lt_of_not_le hl, ?_⟩
    generalize prog[s.pos] = m
    cases m <;> rfl

/-- `k` producer steps finish the producer if `k` makes up what `frame * prog.length + pos` (the measure
of `prod_measure`, one more per step) lacks of `n * prog.length` -/
theorem prod_finishes (prog : List Micro) (n k : Nat) (s : S) (hL : s.pos < prog.length)
    (hk : n * prog.length ≤ s.frame * prog.length + s.pos + k) :
    ((List.replicate k Who.producer).foldl (step prog n) s).frame ≥ n := by
  induction k generalizing s with
  | zero =>
    have : n * prog.length < (s.frame + 1) * prog.length := by
      rw [Nat.succ_mul]
      exact Nat.lt_of_le_of_lt hk (Nat.add_lt_add_left hL _)
    exact Nat.le_of_lt_succ (Nat.lt_of_mul_lt_mul_right this)
  | succ k ih =>
    rw [List.replicate_succ, List.foldl_cons]
    by_cases hge : s.frame ≥ n
    · rw [show step prog n s .producer = s from if_pos hge]
      exact ih s hL (Nat.le_add_right_of_le (Nat.le_add_right_of_le (Nat.mul_le_mul_right _ hge)))
    · obtain ⟨h1, h2⟩ := prod_measure prog n s hL (Nat.lt_of_not_le hge)
      refine ih _ h1 ?_
      rw [h2, Nat.add_right_comm]
      exact hk

theorem sub_finishes {T : Tab} (hT : T.Safe) (prog : List Micro) (n : Nat) (s : S) (h : Inv T n s)
    (hf : s.frame ≥ n) :
    complete n ([Who.subscriber, .subscriber].foldl (step prog n) s) = true := by
  obtain ⟨h1, _, h3, _, _, h6, h7, _, _⟩ := h
  rw [h3 (Nat.le_antisymm h1 hf), hT.h0] at h6
  obtain ⟨f, p, hd, pb, rc, spc, sa, hist⟩ := s
  obtain rfl : hd = false := h6
  -- with the lock free, two subscriber steps bring `spc` to 2 from 0, 1 and 2 alike
  rcases spc with _ | _ | _ | k
  · exact complete_iff.mpr ⟨hf, rfl⟩
  · exact complete_iff.mpr ⟨hf, rfl⟩
  · exact complete_iff.mpr ⟨hf, rfl⟩
  · exact absurd (Nat.le_trans (Nat.le_add_left 3 k) h7) (by decide)

/-- the snapshot is not blocked forever: EVERY schedule prefix can be extended to a complete one
(let the producer finish, then schedule the subscriber twice) -/
theorem can_complete_from (prog : List Micro) (hp : prog ∈ safeShapes) (n : Nat) (sched : List Who) :
    complete n (run prog n
      (sched ++ (List.replicate (n * prog.length) Who.producer ++ [.subscriber, .subscriber]))) = true := by
  obtain ⟨hb, hs⟩ := safe_once prog hp
  have hT := tracks_of hb hs
  have hfin : (run prog n (sched ++ List.replicate (n * prog.length) Who.producer)).frame ≥ n := by
    rw [run, List.foldl_append]
    exact prod_finishes prog n _ _ (inv_run hT n sched).2.1 (Nat.le_add_left _ _)
  rw [← List.append_assoc, run, List.foldl_append]
  exact sub_finishes hs prog n _ (inv_run hT n _) hfin

theorem can_complete (prog : List Micro) (hp : prog ∈ safeShapes) (n : Nat) :
    ∃ sched, complete n (run prog n sched) = true :=
  ⟨_, can_complete_from prog hp n []⟩

/-- the hypothesis `prog ∈ safeShapes` of `join_exact` is needed: the publish-then-locked-record order
is not in `safeShapes`, and a complete run of it delivers nothing instead of `[0]` -/
example : pubThenLockedRec ∉ safeShapes ∧
    complete 1 (run pubThenLockedRec 1
      [.producer, .subscriber, .subscriber, .producer, .producer, .producer]) = true ∧
    output (run pubThenLockedRec 1
      [.producer, .subscriber, .subscriber, .producer, .producer, .producer]) ≠ List.range 1 := by
  decide

end Rip.Join
