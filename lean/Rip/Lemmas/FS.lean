import Rip.Model.Patch
import Rip.Lemmas.Basic
/-!
The file-system model of Rip/Model/Patch.lean as the patch engine (C12) and the checkpoints (C14)
use it: what each operation requires and does, which paths it touches (`Touches`), and that the
operations keep a file system well-formed (`WF`). `FS.restore` is the best-effort "put this content
back" step that both the patch revert and the rewind rollback perform.
-/
namespace Rip.Patch
open Rip.Proto Rip.Basic

/-- well-formed file system: root is a directory, nothing is both file and directory,
    every ancestor of an existing entry is a directory -/
def WF (fs : FS) : Prop :=
  fs.dir [] = true ∧
  (∀ p, fs.file p ≠ none → fs.dir p = false) ∧
  (∀ p, (fs.file p ≠ none ∨ fs.dir p = true) → ∀ q, q <+: p → q ≠ p → fs.dir q = true)

/-- the oracle "is there a file strictly below p" is exact -/
def FileBelowSpec (fb : FS → Path → Bool) : Prop :=
  ∀ fs p, fb fs p = true ↔ ∃ q, p <+: q ∧ q ≠ p ∧ fs.file q ≠ none

/-! ### paths and prefixes -/

theorem mem_prefixes {p q : Path} : q ∈ prefixes p ↔ q <+: p := by
  unfold prefixes
  simp only [List.mem_map, List.mem_range]
  constructor
  · rintro ⟨n, _, rfl⟩
    exact List.take_prefix n p
  · intro h
    exact ⟨q.length, Nat.lt_succ_of_le h.length_le, (List.prefix_iff_eq_take.mp h).symm⟩

theorem strict_prefix_dropLast {q p : Path} (h : q <+: p) (hne : q ≠ p) : q <+: p.dropLast := by
  obtain ⟨t, rfl⟩ := h
  have ht : t ≠ [] := fun ht => hne (by rw [ht, List.append_nil])
  rw [List.dropLast_append_of_ne_nil ht]
  exact List.prefix_append _ _

theorem not_prefix_dropLast {p : Path} (h : p ≠ []) : ¬ p <+: p.dropLast := by
  intro hp
  have h1 := hp.length_le
  rw [List.length_dropLast] at h1
  exact Nat.lt_irrefl _ (Nat.lt_of_le_of_lt h1 (Nat.sub_one_lt (mt List.length_eq_zero_iff.mp h)))

/-! ### what the operations require and do -/

@[simp] theorem setFile_file (fs : FS) (p : Path) (v : Option Bytes) (q : Path) :
    (fs.setFile p v).file q = if q = p then v else fs.file q := rfl

theorem setFile_dir (fs : FS) (p : Path) (v : Option Bytes) :
    (fs.setFile p v).dir = fs.dir := rfl

theorem exists_eq_false {fs : FS} {p : Path} :
    fs.exists p = false ↔ fs.file p = none ∧ fs.dir p = false := by
  simp [FS.exists]

theorem createDirAll_some {fs fs' : FS} {p : Path} (h : fs.createDirAll p = some fs') :
    (∀ q, q <+: p → fs.file q = none) ∧ (∀ q, fs'.file q = fs.file q) ∧
    (∀ q, fs'.dir q = true ↔ (fs.dir q = true ∨ q <+: p)) := by
  simp only [FS.createDirAll, Option.ite_none_left_eq_some, Option.some.injEq] at h
  obtain ⟨hn, rfl⟩ := h
  -- given by name: instance search tries five order-based `LawfulBEq UInt8` instances first, each time
  have : LawfulBEq UInt8 := instLawfulBEq
  refine ⟨fun q hq => ?_, fun _ => rfl,
    fun q => by simp only [Bool.or_eq_true, List.contains_iff_mem, mem_prefixes]⟩
  rw [List.any_eq_true] at hn
  apply Option.not_isSome_iff_eq_none.mp
  exact fun hs => hn ⟨q, mem_prefixes.mpr hq, hs⟩

theorem write_some {fs fs' : FS} {p : Path} {b : Bytes} : fs.write p b = some fs' →
    p ≠ [] ∧ fs.dir p = false ∧ fs.dir p.dropLast = true ∧ fs' = fs.setFile p (some b) := by
  fun_cases FS.write fs p b
  all_goals try exact none_ne_some
  next hp hd hpar =>
    rintro ⟨⟩
    exact ⟨hp, Bool.eq_false_iff.2 hd, by simpa using hpar, rfl⟩

theorem write_eq_some {fs : FS} {p : Path} (b : Bytes) (h1 : p ≠ []) (h2 : fs.dir p = false)
    (h3 : fs.dir p.dropLast = true) : fs.write p b = some (fs.setFile p (some b)) := by
  unfold FS.write
  simp [h1, h2, h3]

theorem removeFile_some {fs fs' : FS} {p : Path} (h : fs.removeFile p = some fs') :
    fs.file p ≠ none ∧ fs' = fs.setFile p none := by
  simp only [FS.removeFile, Option.ite_none_right_eq_some, Option.some.injEq] at h
  exact ⟨Option.isSome_iff_ne_none.mp h.1, h.2.symm⟩

theorem removeFile_none {fs : FS} {p : Path} (h : fs.removeFile p = none) : fs.file p = none := by
  simp only [FS.removeFile, ite_eq_right_iff, reduceCtorEq, imp_false] at h
  exact Option.not_isSome_iff_eq_none.mp h

theorem rename_some {fs fs' : FS} {a b : Path} : fs.rename a b = some fs' →
    ∃ bytes, fs.file a = some bytes ∧ b ≠ [] ∧ fs.dir b = false ∧ fs.dir b.dropLast = true ∧
      fs' = (fs.setFile a none).setFile b (some bytes) := by
  fun_cases FS.rename fs a b
  all_goals try exact none_ne_some
  next bytes ha hb he hpar =>
    rintro ⟨⟩
    exact ⟨bytes, ha, hb, (exists_eq_false.mp (Bool.eq_false_iff.2 he)).2, by simpa using hpar, rfl⟩

theorem write_file_ne {fs fs' : FS} {p : Path} {b : Bytes} (h : fs.write p b = some fs') {q : Path}
    (hq : q ≠ p) : fs'.file q = fs.file q := by
  obtain ⟨_, _, _, rfl⟩ := write_some h
  rw [setFile_file, if_neg hq]

theorem rename_file_ne {fs fs' : FS} {a b : Path} (h : fs.rename a b = some fs') {q : Path}
    (ha : q ≠ a) (hb : q ≠ b) : fs'.file q = fs.file q := by
  obtain ⟨_, _, _, _, _, rfl⟩ := rename_some h
  rw [setFile_file, if_neg hb, setFile_file, if_neg ha]

/-! ### which paths an operation touches -/

/-- frame of a step that works on the one path `p`: other files stay, directories only grow, and
(only if the step may create parents, `mk`) by ancestors of `p` -/
structure Touches (p : Path) (mk : Prop) (fs fs' : FS) : Prop where
  file : ∀ q, q ≠ p → fs'.file q = fs.file q
  mono : ∀ q, fs.dir q = true → fs'.dir q = true
  new : ∀ q, fs'.dir q = true → fs.dir q = true ∨ (mk ∧ q <+: p.dropLast)

theorem Touches.refl (p : Path) (mk : Prop) (fs : FS) : Touches p mk fs fs :=
  ⟨fun _ _ => rfl, fun _ h => h, fun _ h => Or.inl h⟩

theorem Touches.trans {p : Path} {mk : Prop} {fs fs1 fs2 : FS} (h1 : Touches p mk fs fs1)
    (h2 : Touches p mk fs1 fs2) : Touches p mk fs fs2 :=
  ⟨fun q hq => (h2.file q hq).trans (h1.file q hq), fun q hq => h2.mono q (h1.mono q hq),
    fun q hq => (h2.new q hq).elim (h1.new q) Or.inr⟩

theorem Touches.setFile (p : Path) (mk : Prop) (fs : FS) (v : Option Bytes) :
    Touches p mk fs (fs.setFile p v) :=
  ⟨fun q hq => by rw [setFile_file, if_neg hq], fun _ h => h, fun _ h => Or.inl h⟩

theorem Touches.write {p : Path} {mk : Prop} {fs fs' : FS} {b : Bytes}
    (h : fs.write p b = some fs') : Touches p mk fs fs' := by
  obtain ⟨_, _, _, rfl⟩ := write_some h
  exact .setFile p mk fs _

theorem Touches.removeFile {p : Path} {mk : Prop} {fs fs' : FS}
    (h : fs.removeFile p = some fs') : Touches p mk fs fs' := by
  obtain ⟨_, rfl⟩ := removeFile_some h
  exact .setFile p mk fs _

theorem Touches.createDirAll {p : Path} {mk : Prop} (hmk : mk) {fs fs' : FS}
    (h : fs.createDirAll p.dropLast = some fs') : Touches p mk fs fs' := by
  obtain ⟨_, hfile, hdir⟩ := createDirAll_some h
  exact ⟨fun q _ => hfile q, fun q hq => (hdir q).mpr (Or.inl hq),
    fun q hq => ((hdir q).mp hq).imp_right (fun h => ⟨hmk, h⟩)⟩

/-- One step of a chain that puts back the values `f`, seen from a path `q` that either agrees with
`f` already or is among those still to be put (`p :: ks`): the step on `p` makes `p` agree, and
frames every other path. Both the apply phase and the rollback are such chains. -/
theorem Touches.agree {f : Path → Option Bytes} {p q : Path} {ks : List Path} {mk : Prop}
    {fs fs1 : FS} (ht : Touches p mk fs fs1) (hl : fs1.file p = f p)
    (hq : fs.file q = f q ∨ q ∈ p :: ks) : fs1.file q = f q ∨ q ∈ ks := by
  rcases Classical.em (q = p) with rfl | hne
  · exact .inl hl
  · rw [ht.file q hne]
    exact hq.imp_right fun hmem => (List.mem_cons.mp hmem).resolve_left hne

/-! ### best-effort restoring of one path -/

/-- `create_dir_all(parent)` with the error ignored -/
def FS.mkParent (fs : FS) (p : Path) : FS :=
  match fs.createDirAll p.dropLast with
  | some f => f
  | none => fs

/-- put `v` back at `p`, ignoring errors: the step of `rollback`, and of `revertEntry` once the
directories in the way are cleared -/
def FS.restore (fs : FS) (p : Path) : Option Bytes → FS
  | some b =>
    match (fs.mkParent p).write p b with
    | some f => f
    | none => fs.mkParent p
  | none =>
    match fs.removeFile p with
    | some f => f
    | none => fs

theorem mkParent_touches {mk : Prop} (hmk : mk) (fs : FS) (p : Path) :
    Touches p mk fs (fs.mkParent p) := by
  fun_cases FS.mkParent fs p
  next f hc => exact .createDirAll hmk hc
  next => exact .refl _ _ _

theorem restore_touches (fs : FS) (p : Path) (v : Option Bytes) :
    Touches p (v ≠ none) fs (fs.restore p v) := by
  fun_cases FS.restore fs p v
  next b f hw => exact (mkParent_touches nofun fs p).trans (.write hw)
  next b hw => exact mkParent_touches nofun fs p
  next f hr => exact .removeFile hr
  next hr => exact .refl _ _ _

theorem restore_none_file (fs : FS) (p : Path) : (fs.restore p none).file p = none := by
  simp only [FS.restore]
  cases hr : fs.removeFile p with
  | none => exact removeFile_none hr
  | some f =>
    obtain ⟨_, rfl⟩ := removeFile_some hr
    rw [setFile_file, if_pos rfl]

theorem restore_some_file (fs : FS) {p : Path} (b : Bytes) (hp : p ≠ []) (hd : fs.dir p = false)
    (hpar : fs.dir p.dropLast = true) : (fs.restore p (some b)).file p = some b := by
  have ht := mkParent_touches trivial fs p
  have hd' : (fs.mkParent p).dir p = false := by
    apply Bool.eq_false_iff.mpr
    intro hx
    rcases ht.new p hx with h1 | ⟨_, h1⟩
    · rw [hd] at h1
      cases h1
    · exact not_prefix_dropLast hp h1
  simp only [FS.restore]
  rw [write_eq_some b hp hd' (ht.mono _ hpar), setFile_file, if_pos rfl]

/-! ### well-formedness -/

theorem WF_createDirAll {fs fs' : FS} {p : Path} (hwf : WF fs)
    (h : fs.createDirAll p = some fs') : WF fs' := by
  obtain ⟨hnf, hfile, hdir⟩ := createDirAll_some h
  obtain ⟨w1, w2, w3⟩ := hwf
  refine ⟨(hdir []).mpr (Or.inl w1), ?_, ?_⟩
  · intro q hq
    rw [hfile] at hq
    apply Bool.eq_false_iff.mpr
    intro hd
    rcases (hdir q).mp hd with h1 | h1
    · rw [w2 q hq] at h1
      cases h1
    · exact hq (hnf q h1)
  · intro q' hq' q hpre hne
    rw [hfile, hdir, ← or_assoc] at hq'
    rw [hdir]
    rcases hq' with h1 | h1
    · exact Or.inl (w3 q' h1 q hpre hne)
    · exact Or.inr (hpre.trans h1)

theorem WF_setFile {fs : FS} {x : Path} (v : Option Bytes) (hwf : WF fs)
    (h : v ≠ none → fs.dir x = false ∧ fs.dir x.dropLast = true) : WF (fs.setFile x v) := by
  obtain ⟨w1, w2, w3⟩ := hwf
  refine ⟨w1, ?_, ?_⟩
  · intro q hq
    rw [setFile_file] at hq
    by_cases hqx : q = x
    · rw [if_pos hqx] at hq
      rw [hqx]
      exact (h hq).1
    · rw [if_neg hqx] at hq
      exact w2 q hq
  · intro q' hq' q hpre hne
    rcases hq' with hf | hd
    · rw [setFile_file] at hf
      by_cases hqx : q' = x
      · rw [if_pos hqx] at hf
        subst hqx
        have hpar := (h hf).2
        by_cases he : q = q'.dropLast
        · rw [he]
          exact hpar
        · exact w3 _ (.inr hpar) q (strict_prefix_dropLast hpre hne) he
      · rw [if_neg hqx] at hf
        exact w3 q' (.inl hf) q hpre hne
    · exact w3 q' (.inr hd) q hpre hne

theorem WF_root_not_file {fs : FS} (hwf : WF fs) : fs.file [] = none := by
  apply Classical.byContradiction
  intro h
  have := hwf.2.1 [] h
  rw [hwf.1] at this
  cases this

theorem WF.above_file {fs : FS} (hwf : WF fs) {p : Path} (hf : fs.file p ≠ none) :
    p ≠ [] ∧ ∀ q, q <+: p.dropLast → fs.dir q = true := by
  have hp : p ≠ [] := fun hp => hf (hp ▸ WF_root_not_file hwf)
  refine ⟨hp, fun q hq => ?_⟩
  apply hwf.2.2 p (Or.inl hf) q (hq.trans (List.dropLast_prefix p))
  intro he
  exact not_prefix_dropLast hp (he ▸ hq)

theorem WF.below_file {fs : FS} (hwf : WF fs) {p q : Path} (hf : fs.file p ≠ none)
    (hpre : p <+: q) : (q ≠ p → fs.file q = none) ∧ fs.dir q = false := by
  by_cases hqp : q = p
  · exact ⟨fun h => absurd hqp h, hqp ▸ hwf.2.1 p hf⟩
  · have hno : ¬ (fs.file q ≠ none ∨ fs.dir q = true) := by
      intro h
      have := hwf.2.2 q h p hpre (Ne.symm hqp)
      rw [hwf.2.1 p hf] at this
      cases this
    exact ⟨fun _ => Classical.not_not.mp fun h => hno (.inl h),
      Bool.eq_false_iff.mpr fun h => hno (.inr h)⟩

end Rip.Patch
