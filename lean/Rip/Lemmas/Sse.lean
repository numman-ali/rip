import Rip.Model.Sse
/-!
C15 at string level. The decoder reads byte by byte, so feeding a concatenation is feeding the parts;
the mapper numbers as it goes, so mapping a concatenation is mapping the parts with the counter carried
over; the cut at `[DONE]` falls in the first part or in the second.
-/
namespace Rip.Sse
open Rip.Proto

/-! ### decoder: string-level chunk invariance -/

theorem Dec.feed_append (d : Dec) (a b : Bytes) :
    d.feed (a ++ b) = ((d.feed a).1.feed b |>.1, (d.feed a).2 ++ ((d.feed a).1.feed b).2) := by
  induction a generalizing d with
  | nil => rfl
  | cons x xs ih =>
    simp only [List.cons_append, Dec.feed]
    split
    · rw [ih, List.append_assoc]
    · exact ih _

def Dec.feedAll (d : Dec) : List Bytes → Dec × List Parsed
  | [] => (d, [])
  | c :: cs =>
    let (d1, e1) := d.push c
    let (d2, e2) := Dec.feedAll d1 cs
    (d2, e1 ++ e2)

theorem Dec.feedAll_flatten (d : Dec) (cs : List Bytes) : d.feedAll cs = d.push cs.flatten := by
  induction cs generalizing d with
  | nil => rfl
  | cons c cs ih =>
    simp only [Dec.feedAll, List.flatten_cons, Dec.push] at *
    rw [feed_append, ih]

/-! ### mapper -/

def seqOf : FrameOut → Nat
  | .provider s _ _ _ => s
  | .textDelta s _ => s

def providerRaw : FrameOut → Option (Option Bytes × Bytes)
  | .provider _ e r _ => some (e, r)
  | .textDelta _ _ => none

def textOf : FrameOut → Option Bytes
  | .provider _ _ _ _ => none
  | .textDelta _ d => some d

def textDeltaOf (δ : Bytes → Option Bytes) (p : Parsed) : Option Bytes :=
  if isDone p then none else δ p.raw

theorem mapParsed_eq (δ : Bytes → Option Bytes) (s : Nat) (p : Parsed) :
    mapParsed δ s p =
      .provider s p.event p.raw (isDone p) :: ((textDeltaOf δ p).map (.textDelta (s + 1))).toList := by
  unfold mapParsed textDeltaOf
  cases isDone p
  · cases δ p.raw <;> rfl
  · rfl

theorem mapParsed_seqs (δ : Bytes → Option Bytes) (s : Nat) (p : Parsed) :
    (mapParsed δ s p).map seqOf = List.range' s (mapParsed δ s p).length := by
  rw [mapParsed_eq]
  cases textDeltaOf δ p <;> rfl

theorem mapAll_seqs (δ : Bytes → Option Bytes) (s : Nat) (ps : List Parsed) :
    (mapAll δ s ps).map seqOf = List.range' s (mapAll δ s ps).length := by
  induction ps generalizing s with
  | nil => rfl
  | cons p ps ih =>
    simp only [mapAll, List.map_append, List.length_append]
    rw [mapParsed_seqs, ih, List.range'_append_1]

theorem mapAll_providers (δ : Bytes → Option Bytes) (s : Nat) (ps : List Parsed) :
    (mapAll δ s ps).filterMap providerRaw = ps.map (fun p => (p.event, p.raw)) := by
  induction ps generalizing s with
  | nil => rfl
  | cons p ps ih =>
    rw [mapAll, List.filterMap_append, ih, List.map_cons, mapParsed_eq]
    cases textDeltaOf δ p <;> rfl

theorem mapAll_text (δ : Bytes → Option Bytes) (s : Nat) (ps : List Parsed) :
    (mapAll δ s ps).filterMap textOf = ps.filterMap (textDeltaOf δ) := by
  induction ps generalizing s with
  | nil => rfl
  | cons p ps ih =>
    rw [mapAll, List.filterMap_append, ih, List.filterMap_cons, mapParsed_eq]
    cases textDeltaOf δ p <;> rfl

theorem mapAll_append (δ : Bytes → Option Bytes) (s : Nat) (xs ys : List Parsed) :
    mapAll δ s (xs ++ ys) = mapAll δ s xs ++ mapAll δ (s + (mapAll δ s xs).length) ys := by
  induction xs generalizing s with
  | nil => rfl
  | cons p ps ih =>
    simp only [List.cons_append, mapAll, ih, List.append_assoc, List.length_append, Nat.add_assoc]

/-! ### the cut at `[DONE]` -/

theorem any_uptoDone (xs : List Parsed) : (uptoDone xs).any isDone = xs.any isDone := by
  induction xs with
  | nil => rfl
  | cons p ps ih =>
    simp only [uptoDone]
    split <;> simp_all

theorem uptoDone_append (xs ys : List Parsed) :
    uptoDone (xs ++ ys) = if xs.any isDone then uptoDone xs else uptoDone xs ++ uptoDone ys := by
  induction xs with
  | nil => rfl
  | cons p ps ih =>
    rw [List.cons_append, uptoDone, uptoDone, ih, List.any_cons]
    cases isDone p <;> cases ps.any isDone <;> rfl

theorem uptoDone_of_not_any (xs : List Parsed) (h : xs.any isDone = false) : uptoDone xs = xs := by
  induction xs with
  | nil => rfl
  | cons p ps ih =>
    rw [List.any_cons, Bool.or_eq_false_iff] at h
    rw [uptoDone, h.1, if_neg Bool.false_ne_true, ih h.2]

theorem uptoDone_append_of_not_any (xs ys : List Parsed) (h : xs.any isDone = false) :
    uptoDone (xs ++ ys) = xs ++ uptoDone ys := by
  rw [uptoDone_append, h, if_neg Bool.false_ne_true, uptoDone_of_not_any xs h]

end Rip.Sse
