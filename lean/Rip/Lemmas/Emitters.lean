import Rip.Model.Emitters
import Rip.Lemmas.Basic
/-!
C06, several emitters on one stream, with the seq lock held around the whole emission (`nested = true`,
the code as it is). Every safety statement is read off `Inv total s`: all emitters idle, or one holder
of the seq lock in a `Phase`. No deadlock: `cost` drops with every step that is not blocked.
-/
namespace Rip.Emitters
open Rip.Basic

/-! ### sums over the emitters -/

def sumOf (f : E → Nat) (es : List E) : Nat := (es.map f).sum

theorem sumOf_set (f : E → Nat) {es : List E} {i : Nat} {e e' : E} (k : Nat) (h : es[i]? = some e)
    (hk : f e' + k = f e) : sumOf f (es.set i e') + k = sumOf f es :=
  sum_map_set f k h hk

theorem le_sumOf (f : E → Nat) : ∀ (es : List E) (i : Nat) (e : E), es[i]? = some e → f e ≤ sumOf f es := by
  intro es
  induction es with
  | nil => exact fun _ _ h => nomatch h
  | cons x xs ih =>
    intro i e h
    cases i with
    | zero =>
      cases h
      exact Nat.le_add_right _ _
    | succ i => exact Nat.le_trans (ih i e h) (Nat.le_add_left _ _)

theorem sumOf_eq_zero (f : E → Nat) :
    ∀ (es : List E), (∀ (i : Nat) (e : E), es[i]? = some e → f e = 0) → sumOf f es = 0 :=
  fun _ h => List.sum_eq_zero_iff_forall_eq_nat.mpr <| List.forall_mem_map.mpr fun e he =>
    (List.getElem?_of_mem he).elim fun i hi => h i e hi

/-- frames still to emit, over all emitters -/
def sumLeft (es : List E) : Nat := sumOf (fun e => e.left) es

theorem sumLeft_init (counts : List Nat) : sumLeft (init counts).es = counts.sum := by
  show ((counts.map _).map _).sum = _
  rw [List.map_map]
  exact congrArg List.sum (List.map_id counts)

/-! ### the invariant -/

/-- the pc-specific part of the invariant: `b` is the number of completed emissions, `i` holds the
seq lock and is at `e` -/
def Phase (s : S) (b i : Nat) (e : E) : Prop :=
  (e.pc = 1 ∧ s.bufHolder = none ∧ s.next = b ∧
    s.published = List.range b ∧ s.recorded = List.range b) ∨
  (e.pc = 2 ∧ s.bufHolder = none ∧ s.next = b + 1 ∧ e.drawn = b ∧
    s.published = List.range b ∧ s.recorded = List.range b) ∨
  (e.pc = 3 ∧ s.bufHolder = some i ∧ s.next = b + 1 ∧ e.drawn = b ∧
    s.published = List.range b ∧ s.recorded = List.range b) ∨
  (e.pc = 4 ∧ s.bufHolder = some i ∧ s.next = b + 1 ∧ e.drawn = b ∧
    s.published = List.range (b + 1) ∧ s.recorded = List.range b) ∨
  (e.pc = 5 ∧ s.bufHolder = some i ∧ s.next = b + 1 ∧ e.drawn = b ∧
    s.published = List.range (b + 1) ∧ s.recorded = List.range (b + 1))

/-- invariant of the reachable states with the nested lock; `total` is the number of frames to emit -/
inductive Inv (total : Nat) (s : S) : Prop
  | idle (b : Nat) (hsum : b + sumLeft s.es = total)
      (hseq : s.seqHolder = none) (hbuf : s.bufHolder = none) (hnext : s.next = b)
      (hp : s.published = List.range b) (hr : s.recorded = List.range b)
      (hpc : ∀ (j : Nat) (e : E), s.es[j]? = some e → e.pc = 0)
  | busy (b i : Nat) (e : E) (hsum : b + sumLeft s.es = total)
      (hi : s.es[i]? = some e) (hseq : s.seqHolder = some i)
      (hother : ∀ (j : Nat) (e' : E), s.es[j]? = some e' → j ≠ i → e'.pc = 0)
      (hleft : e.left ≠ 0) (hph : Phase s b i e)

theorem inv_init (counts : List Nat) : Inv counts.sum (init counts) := by
  refine Inv.idle 0 ((Nat.zero_add _).trans (sumLeft_init counts)) rfl rfl rfl rfl rfl ?_
  intro j e h
  rw [init, List.getElem?_map, Option.map_eq_some_iff] at h
  obtain ⟨n, _, rfl⟩ := h
  rfl

/-- the state after a step of the holder (or of the first taker): only emitter `i` moved -/
theorem inv_after {total : Nat} {s : S} {b i : Nat} {e e' : E} {sh bh : Option Nat} {nx : Nat}
    {pub rec : List Nat} (hsum : b + sumLeft s.es = total) (hi : s.es[i]? = some e)
    (hother : ∀ (j : Nat) (e' : E), s.es[j]? = some e' → j ≠ i → e'.pc = 0) (hseq : sh = some i)
    (hl : e'.left = e.left) (hleft : e.left ≠ 0)
    (hph : Phase ⟨sh, bh, nx, pub, rec, s.es.set i e'⟩ b i e') :
    Inv total ⟨sh, bh, nx, pub, rec, s.es.set i e'⟩ := by
  refine Inv.busy b i e' ?_ (getElem?_set_self_of_some e' hi) hseq ?_ (hl ▸ hleft) hph
  · rw [← hsum]
    exact congrArg (b + ·) (sumOf_set _ 0 hi hl)
  · intro j e'' hj hne
    rw [List.getElem?_set_ne (Ne.symm hne)] at hj
    exact hother j e'' hj hne

theorem inv_step {total : Nat} {s : S} (h : Inv total s) (i : Nat) : Inv total (step true s i) := by
  unfold step
  split
  · exact h
  rename_i e hi
  by_cases hl : e.left = 0
  · rw [if_pos hl]
    exact h
  rw [if_neg hl]
  -- the invariant tells the `pc` of `i`, which selects the branch of the step
  cases h with
  | idle b hsum hseq hbuf hnext hp hr hpc =>
    -- everybody is at pc 0 and the seq lock is free: `i` takes it (phase 1)
    simp only [hpc i e hi, hseq]
    exact inv_after hsum hi (fun j e' hj _ => hpc j e' hj) rfl rfl hl
      (Or.inl ⟨rfl, hbuf, hnext, hp, hr⟩)
  | busy b j ej hsum hj hseq hother hleft hph =>
    by_cases hne : i = j
    · subst hne
      cases hi.symm.trans hj
      rcases hph with ⟨hpc, hbuf, hnext, hp, hr⟩ | ⟨hpc, hbuf, hnext, hdr, hp, hr⟩ |
        ⟨hpc, hbuf, hnext, hdr, hp, hr⟩ | ⟨hpc, hbuf, hnext, hdr, hp, hr⟩ |
        ⟨hpc, hbuf, hnext, hdr, hp, hr⟩
      · -- pc 1: draws seq `b` (phase 2)
        rw [hpc]
        exact inv_after hsum hi hother hseq rfl hl
          (Or.inr (Or.inl ⟨rfl, hbuf, congrArg (· + 1) hnext, hnext, hp, hr⟩))
      · -- pc 2: takes the buffer lock, which is free (phase 3)
        rw [hpc, hbuf]
        exact inv_after hsum hi hother hseq rfl hl
          (Or.inr (Or.inr (Or.inl ⟨rfl, rfl, hnext, hdr, hp, hr⟩)))
      · -- pc 3: publishes the frame it drew (phase 4)
        rw [hpc]
        exact inv_after hsum hi hother hseq rfl hl
          (Or.inr (Or.inr (Or.inr (Or.inl ⟨rfl, hbuf, hnext, hdr, by rw [hp, hdr, List.range_succ], hr⟩))))
      · -- pc 4: records it (phase 5)
        rw [hpc]
        exact inv_after hsum hi hother hseq rfl hl
          (Or.inr (Or.inr (Or.inr (Or.inr ⟨rfl, hbuf, hnext, hdr, hp, by rw [hr, hdr, List.range_succ]⟩))))
      · -- pc 5: releases both locks; one more frame is out and everybody is at pc 0 again
        rw [hpc]
        refine Inv.idle (b + 1) ?_ rfl rfl hnext hp hr ?_
        · rw [← hsum, Nat.add_assoc, Nat.add_comm 1]
          exact congrArg (b + ·) (sumOf_set _ 1 hi (Nat.sub_add_cancel (Nat.pos_of_ne_zero hl)))
        · intro j e' hj
          rcases getElem?_set_cases hj with ⟨_, rfl⟩ | ⟨hji, hj⟩
          · rfl
          · exact hother j e' hj hji
    · -- anybody else is at pc 0 and finds the seq lock taken
      simp only [hother i e hi hne, hseq]
      exact Inv.busy b j ej hsum hj hseq hother hleft hph

theorem inv_run (counts sched : List Nat) : Inv counts.sum (run true counts sched) :=
  foldl_inv (f := step true) (P := Inv counts.sum) (fun _ i h => inv_step h i) sched _ (inv_init counts)

/-! ### what the invariant says -/

theorem inv_shape {total : Nat} {s : S} (h : Inv total s) :
    ∃ p r, s.published = List.range p ∧ s.recorded = List.range r ∧ (p = r ∨ p = r + 1) ∧
      (s.next = p ∨ s.next = p + 1) := by
  cases h with
  | idle b hsum hseq hbuf hnext hp hr hpc => exact ⟨b, b, hp, hr, .inl rfl, .inl hnext⟩
  | busy b i e hsum hi hseq hother hleft hph =>
    rcases hph with ⟨_, _, hnext, hp, hr⟩ | ⟨_, _, hnext, _, hp, hr⟩ | ⟨_, _, hnext, _, hp, hr⟩ |
      ⟨_, _, hnext, _, hp, hr⟩ | ⟨_, _, hnext, _, hp, hr⟩
    · exact ⟨b, b, hp, hr, .inl rfl, .inl hnext⟩
    · exact ⟨b, b, hp, hr, .inl rfl, .inr hnext⟩
    · exact ⟨b, b, hp, hr, .inl rfl, .inr hnext⟩
    · exact ⟨b + 1, b, hp, hr, .inr rfl, .inl hnext⟩
    · exact ⟨b + 1, b + 1, hp, hr, .inl rfl, .inl hnext⟩

theorem published_in_order (counts : List Nat) (sched : List Nat) :
    ∃ k, (run true counts sched).published = List.range k := by
  obtain ⟨p, _, hp, _⟩ := inv_shape (inv_run counts sched)
  exact ⟨p, hp⟩

theorem recorded_in_order (counts : List Nat) (sched : List Nat) :
    ∃ k, (run true counts sched).recorded = List.range k := by
  obtain ⟨_, r, _, hr, _⟩ := inv_shape (inv_run counts sched)
  exact ⟨r, hr⟩

theorem recorded_prefix_of_published (counts : List Nat) (sched : List Nat) :
    (run true counts sched).recorded <+: (run true counts sched).published ∧
    (run true counts sched).published.length ≤ (run true counts sched).recorded.length + 1 := by
  obtain ⟨p, r, hp, hr, rfl | rfl, _⟩ := inv_shape (inv_run counts sched)
  · rw [hp, hr]
    exact ⟨List.prefix_refl _, Nat.le_succ _⟩
  · rw [hp, hr, List.range_succ, List.length_append]
    exact ⟨List.prefix_append _ _, Nat.le_refl _⟩

/-- the seq counter is the number of seqs drawn: `published.length`, or one more -/
theorem next_tracks (counts : List Nat) (sched : List Nat) :
    (run true counts sched).published.length ≤ (run true counts sched).next ∧
    (run true counts sched).next ≤ (run true counts sched).published.length + 1 := by
  obtain ⟨p, _, hp, _, _, hn | hn⟩ := inv_shape (inv_run counts sched)
  · rw [hp, hn, List.length_range]
    exact ⟨Nat.le_refl p, Nat.le_succ p⟩
  · rw [hp, hn, List.length_range]
    exact ⟨Nat.le_succ p, Nat.le_refl _⟩

theorem Phase.pc_buf {s : S} {b i : Nat} {e : E} (h : Phase s b i e) :
    1 ≤ e.pc ∧ e.pc ≤ 5 ∧ s.bufHolder = (if e.pc ≤ 2 then none else some i) := by
  rcases h with ⟨h, hb, _⟩ | ⟨h, hb, _⟩ | ⟨h, hb, _⟩ | ⟨h, hb, _⟩ | ⟨h, hb, _⟩
  all_goals
    rw [h]
    exact ⟨by decide, by decide, hb⟩

theorem inv_cases {total : Nat} {s : S} (h : Inv total s) {i : Nat} {e : E} (he : s.es[i]? = some e) :
    e.pc = 0 ∨ (s.seqHolder = some i ∧ e.left ≠ 0 ∧ ∃ b, Phase s b i e) := by
  cases h with
  | idle b hsum hseq hbuf hnext hp hr hpc => exact .inl (hpc i e he)
  | busy b j ej hsum hi hseq hother hleft hph =>
    by_cases hne : i = j
    · subst hne
      cases he.symm.trans hi
      exact .inr ⟨hseq, hleft, b, hph⟩
    · exact .inl (hother i e he hne)

theorem inv_holder {total : Nat} {s : S} (h : Inv total s) {i : Nat} {a : E}
    (ha : s.es[i]? = some a) (hpa : 1 ≤ a.pc) : s.seqHolder = some i := by
  rcases inv_cases h ha with h0 | ⟨hs, _⟩
  · exact absurd h0 (Nat.ne_of_gt hpa)
  · exact hs

/-- mutual exclusion: at most one emitter is between taking the seq lock and the release -/
theorem one_in_section (counts : List Nat) (sched : List Nat) (i j : Nat) (a b : E)
    (ha : (run true counts sched).es[i]? = some a) (hb : (run true counts sched).es[j]? = some b)
    (hpa : 1 ≤ a.pc) (hpb : 1 ≤ b.pc) : i = j :=
  Option.some.inj ((inv_holder (inv_run counts sched) ha hpa).symm.trans
    (inv_holder (inv_run counts sched) hb hpb))

theorem buf_holder_holds_seq (counts : List Nat) (sched : List Nat) (i : Nat)
    (h : (run true counts sched).bufHolder = some i) : (run true counts sched).seqHolder = some i := by
  cases inv_run counts sched with
  | idle b hsum hseq hbuf hnext hp hr hpc => cases hbuf.symm.trans h
  | busy b j e hsum hi hseq hother hleft hph =>
    -- the buffer lock is free or with the holder of the seq lock
    obtain ⟨_, hh⟩ := Option.ite_none_left_eq_some.mp (hph.pc_buf.2.2.symm.trans h)
    cases hh
    exact hseq

/-- the pc stays in range, and an emitter with nothing left to emit is idle -/
theorem pc_range (counts : List Nat) (sched : List Nat) (i : Nat) (e : E)
    (he : (run true counts sched).es[i]? = some e) : e.pc ≤ 5 ∧ (e.left = 0 → e.pc = 0) := by
  rcases inv_cases (inv_run counts sched) he with h0 | ⟨_, hl, b, hph⟩
  · exact ⟨le_of_eq_of_le h0 (Nat.zero_le 5), fun _ => h0⟩
  · exact ⟨hph.pc_buf.2.1, fun h => absurd h hl⟩

theorem allDone_iff (s : S) :
    allDone s = true ↔ ∀ (i : Nat) (e : E), s.es[i]? = some e → e.left = 0 := by
  simp only [allDone, List.all_eq_true, beq_iff_eq]
  exact ⟨fun h i e hi => h e (List.mem_of_getElem? hi),
    fun h e he => (List.getElem?_of_mem he).elim fun i hi => h i e hi⟩

theorem inv_complete {total : Nat} {s : S} (h : Inv total s) (hd : allDone s = true) :
    s.published = List.range total ∧ s.recorded = List.range total := by
  rw [allDone_iff] at hd
  cases h with
  | idle b hsum hseq hbuf hnext hp hr hpc =>
    rw [sumLeft, sumOf_eq_zero _ _ hd] at hsum
    subst hsum
    exact ⟨hp, hr⟩
  | busy b i e hsum hi hseq hother hleft hph => exact absurd (hd i e hi) hleft

theorem complete (counts : List Nat) (sched : List Nat) (hd : allDone (run true counts sched) = true) :
    (run true counts sched).published = List.range counts.sum ∧
    (run true counts sched).recorded = List.range counts.sum :=
  inv_complete (inv_run counts sched) hd

/-! ### no deadlock -/

/-- work still to do by one emitter: six transitions per frame, minus those of the current frame -/
def ecost (e : E) : Nat := 6 * e.left - e.pc

def cost (s : S) : Nat := sumOf ecost s.es

/-- the subtraction in `ecost` is not truncated -/
theorem pc_lt {e : E} (hpc : e.pc ≤ 5) (hl : e.left ≠ 0) : e.pc < 6 * e.left :=
  Nat.lt_of_lt_of_le (Nat.lt_succ_of_le hpc) (Nat.le_mul_of_pos_right 6 (Nat.pos_of_ne_zero hl))

theorem ecost_next {e e' : E} {k : Nat} (h : e.pc = k) (hp : e'.pc = k + 1) (hl' : e'.left = e.left)
    (hpc : e.pc ≤ 5) (hl : e.left ≠ 0) : ecost e' < ecost e := by
  subst h
  rw [ecost, hp, hl']
  exact Nat.sub_lt_sub_left (pc_lt hpc hl) (Nat.lt_succ_self _)

/-- the release ends a frame: `6 * left` drops by 6 and the subtracted `pc` returns to 0, a net drop of
`6 - pc`, positive because `pc ≤ 5` -/
theorem ecost_release {e : E} (hpc : e.pc ≤ 5) (hl : e.left ≠ 0) :
    ecost { e with pc := 0, left := e.left - 1 } < ecost e := by
  show 6 * (e.left - 1) - 0 < 6 * e.left - e.pc
  rw [Nat.sub_zero, Nat.mul_sub_one]
  exact Nat.sub_lt_sub_left (pc_lt hpc hl) (Nat.lt_succ_of_le hpc)

/-- `h0`, `h2`: the emitter is not waiting for a lock -/
theorem step_progress {s : S} {i : Nat} {e : E} (hi : s.es[i]? = some e) (hl : e.left ≠ 0)
    (hpc : e.pc ≤ 5) (h0 : e.pc = 0 → s.seqHolder = none) (h2 : e.pc = 2 → s.bufHolder = none) :
    cost (step true s i) < cost s := by
  rw [step, hi]
  dsimp only
  rw [if_neg hl]
  split
  next h =>
    rw [h0 h]
    exact sum_map_set_lt ecost hi (ecost_next h rfl rfl hpc hl)
  next h => exact sum_map_set_lt ecost hi (ecost_next h rfl rfl hpc hl)
  next h =>
    rw [h2 h]
    exact sum_map_set_lt ecost hi (ecost_next h rfl rfl hpc hl)
  next h => exact sum_map_set_lt ecost hi (ecost_next h rfl rfl hpc hl)
  next h => exact sum_map_set_lt ecost hi (ecost_next h rfl rfl hpc hl)
  next => exact sum_map_set_lt ecost hi (ecost_release hpc hl)

theorem progress {total : Nat} {s : S} (h : Inv total s) (hd : ¬ allDone s = true) :
    ∃ i, cost (step true s i) < cost s := by
  cases h with
  | idle b hsum hseq hbuf hnext hp hr hpc =>
    -- nobody holds anything: any emitter with a frame left can take the seq lock
    obtain ⟨e, he, hl⟩ := List.all_eq_false.mp (Bool.eq_false_iff.mpr hd)
    obtain ⟨i, hi⟩ := List.getElem?_of_mem he
    exact ⟨i, step_progress hi (fun h => hl (beq_iff_eq.mpr h))
      (le_of_eq_of_le (hpc i e hi) (Nat.zero_le 5)) (fun _ => hseq) (fun _ => hbuf)⟩
  | busy b i e hsum hi hseq hother hl hph =>
    -- the holder of the seq lock is never blocked: at pc 2 the buffer lock is free
    obtain ⟨h1, h5, hbuf⟩ := hph.pc_buf
    exact ⟨i, step_progress hi hl h5 (fun h => absurd h (Nat.ne_of_gt h1))
      fun h => hbuf.trans (if_pos (Nat.le_of_eq h))⟩

theorem can_finish (counts : List Nat) (sched : List Nat) :
    ∃ more, allDone (run true counts (sched ++ more)) = true := by
  obtain ⟨more, hm⟩ := exists_foldl_of_measure (goal := fun s => allDone s = true) cost
    (fun _ i h => inv_step h i) (fun _ h hd => progress h hd) _ (inv_run counts sched)
  exact ⟨more, by rw [run, List.foldl_append]; exact hm⟩

end Rip.Emitters
