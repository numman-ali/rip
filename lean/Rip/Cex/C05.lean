import Rip.Model.Crash

/-!
C05 counterexamples: `Rip.Crash.crash_safe` is false without either repair, and even with both the
messages+runs sidecar can stay one frame short.
-/
namespace Rip.Cex.C05
open Rip.Crash

instance (d : Disk) : Decidable (GapFree d) := by unfold GapFree; infer_instance

def small : Frame := { big := false, mr := false }
/-- a frame larger than the writer's buffer -/
def bigF : Frame := { big := true, mr := false }
def msg : Frame := { big := false, mr := true }

/-! ### concrete stories -/

/-- two acknowledged frames, then a large frame dies between its body and its newline: the body
dangles at the end of the log -/
example : partialAppend bigF 2 1 (appendAll [small, small] 0 empty) =
    { log := [some 0, some 1], dangling := some 2, side := [0, 1], mr := [] } := by decide

/-- … `fixF` terminates it on open: the frame is in the log, the thread cache is one behind -/
example : story true true [small, small] bigF 1 [] =
    { log := [some 0, some 1, some 2], dangling := none, side := [0, 1], mr := [] } := by decide

/-- … without `fixF` it stays dangling -/
example : story true false [small, small] bigF 1 [] =
    { log := [some 0, some 1], dangling := some 2, side := [0, 1], mr := [] } := by decide

/-- … and the next append is swallowed into one unparseable line -/
example : story true false [small, small] bigF 1 [small] =
    { log := [some 0, some 1, none], dangling := none, side := [0, 1, 2], mr := [] } := by decide

/-- … with both repairs the next append gets seq 3 and the thread cache is rebuilt -/
example : story true true [small, small] bigF 1 [small] =
    { log := [some 0, some 1, some 2, some 3], dangling := none, side := [0, 1, 2, 3], mr := [] } := by
  decide

/-- k = 3: the log line is written and flushed, the sidecar line is not -/
example : story true true [small, small] bigF 3 [] =
    { log := [some 0, some 1, some 2], dangling := none, side := [0, 1], mr := [] } := by decide

/-- … without `fixE` the next seq comes from the sidecar: seq 2 is used twice -/
example : story false true [small, small] bigF 3 [small] =
    { log := [some 0, some 1, some 2, some 2], dangling := none, side := [0, 1, 2], mr := [] } := by
  decide

/-- … with `fixE` it comes from the log and the thread cache is rebuilt -/
example : story true true [small, small] bigF 3 [small] =
    { log := [some 0, some 1, some 2, some 3], dangling := none, side := [0, 1, 2, 3], mr := [] } := by
  decide

/-- a small frame that dies before its flush never reached the file: its seq is reused, correctly -/
example : story true true [small, small] small 2 [small] =
    { log := [some 0, some 1, some 2], dangling := none, side := [0, 1, 2], mr := [] } := by decide

/-- a message frame that dies at k = 3 (before the sidecar line): the rebuild also rewrites the
messages+runs sidecar, which is then complete -/
example : story true true [msg, small] msg 3 [msg] =
    { log := [some 0, some 1, some 2, some 3], dangling := none, side := [0, 1, 2, 3],
      mr := [0, 2, 3] } := by decide

/-- … at k = 4 or 5 (after the sidecar line, before the messages+runs line) the thread cache agrees
with the log, nothing is rebuilt, and seq 2 is missing from the messages+runs sidecar -/
example : story true true [msg, small] msg 5 [msg] =
    { log := [some 0, some 1, some 2, some 3], dangling := none, side := [0, 1, 2, 3],
      mr := [0, 3] } := by decide

/-- … at k = 6 the messages+runs line is there -/
example : story true true [msg, small] msg 6 [msg] =
    { log := [some 0, some 1, some 2, some 3], dangling := none, side := [0, 1, 2, 3],
      mr := [0, 2, 3] } := by decide

/-! ### the statement is false without either repair -/

/-- without fixE: a crash between the log line and the sidecar line makes the next append reuse a seq -/
theorem duplicate_seq_without_fixE : ∃ (hist : List Frame) (f : Frame) (k : Nat) (more : List Frame),
    ¬ GapFree (story false true hist f k more) ∧ GapFree (story true true hist f k more) :=
  ⟨[small, small], small, 3, [small], by decide⟩

/-- without fixF: a crash between the body and the newline of a large frame makes the next append unparseable -/
theorem unparseable_without_fixF : ∃ (hist : List Frame) (f : Frame) (k : Nat) (more : List Frame),
    ¬ GapFree (story true false hist f k more) ∧ GapFree (story true true hist f k more) :=
  ⟨[small, small], bigF, 1, [small], by decide⟩

/-- even with both repairs a crash between the sidecar line and the messages+runs line leaves the
messages+runs sidecar one frame short for ever (nothing reconciles it) -/
theorem mr_sidecar_stale_for_ever : ∃ (hist : List Frame) (f : Frame) (k : Nat) (more : List Frame),
    more ≠ [] ∧ (story true true hist f k more).mr ≠ mrSeqs (hist ++ [f] ++ more) ∧
    (story true true hist f k more).log = (List.range (hist.length + 1 + more.length)).map some :=
  ⟨[msg, small], msg, 5, [msg], by decide⟩

/-- the same at the other boundary of the window (k = 4), and it stays short however many frames follow -/
theorem mr_sidecar_stale_k4 :
    (story true true [msg, small] msg 4 [msg, small, msg]).mr = [0, 3, 5] ∧
    mrSeqs ([msg, small] ++ [msg] ++ [msg, small, msg]) = [0, 2, 3, 5] := by decide

end Rip.Cex.C05
