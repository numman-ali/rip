import Rip.Model.Context
/-!
C08 counterexample: with the code as it was (`strictCut = false`) a checkpoint frame appended AFTER the
cut point of an earlier run changes what that run's context compiles to; with the repair
(`strictCut = true`) it does not. Also non-vacuity checks of the model on small concrete threads.
-/
namespace Rip.Cex.C08
open Rip.Context

/-- session created, then two user messages (ids 101 and 102) -/
def evs : List F := [⟨0, 100, .other⟩, ⟨1, 101, .message 7⟩, ⟨2, 102, .message 8⟩]

/-- appended later: a cumulative checkpoint summarising up to seq 1 (the first message) -/
def later : List F := [⟨3, 103, .checkpoint 9 1 true 55⟩]

/-- the run triggered by the first message -/
def anchor : Nat := 101

instance (l : List F) : Decidable (Valid l) := by unfold Valid; exact inferInstance

theorem evs_later_valid : Valid (evs ++ later) := by decide

/-- the anchor's message and a later message are both in `evs` (this is `HasNext evs anchor`) -/
theorem evs_hasNext :
    (messages evs).dropWhile (fun f => f.id != anchor) = [⟨1, 101, .message 7⟩, ⟨2, 102, .message 8⟩] := by
  decide

/-- the cut of that run is fixed at seq 1 whether or not the later frame is there -/
theorem cut_fixed : cutpoint evs anchor = some 1 ∧ cutpoint (evs ++ later) anchor = some 1 := by decide

/-- `later_frames_irrelevant` is FALSE for `strictCut = false`: all its hypotheses hold and the result differs -/
theorem late_checkpoint_changes_result :
    ∃ (evs later : List F) (anchor : Nat),
      Valid (evs ++ later) ∧
      (∃ a n post, (messages evs).dropWhile (fun f => f.id != anchor) = a :: n :: post) ∧
      compile false (evs ++ later) anchor (fun _ => 0) ≠ compile false evs anchor (fun _ => 0) :=
  ⟨evs, later, anchor, evs_later_valid, ⟨_, _, _, evs_hasNext⟩, by decide⟩

/-- what the two compilations are: the late checkpoint replaces the run's own message by a summary -/
example : compile false evs anchor (fun _ => 0) =
    some { fromSeq := 1, strategy := .recent, cause := .noCheckpoint, reset := false, selected := [],
           items := [.user 7 1 101] } := by decide

example : compile false (evs ++ later) anchor (fun _ => 0) =
    some { fromSeq := 1, strategy := .summaries, cause := .checkpoint, reset := false, selected := [9],
           items := [.summaryRef 55 1] } := by decide

/-- the same inputs give equal results with the repair -/
example : compile true (evs ++ later) anchor (fun _ => 0) = compile true evs anchor (fun _ => 0) := by decide

example : compile true (evs ++ later) anchor (fun _ => 0) =
    some { fromSeq := 1, strategy := .recent, cause := .noCheckpoint, reset := false, selected := [],
           items := [.user 7 1 101] } := by decide

/-- the side condition of `later_frames_irrelevant_partial` is exactly what fails here: the late checkpoint's
to_seq (1) is not after the cut (1) -/
example : ¬ (∀ f ∈ later, ∀ cp t cum a, f.kind = .checkpoint cp t cum a → 1 < t) :=
  fun h => Nat.lt_irrefl 1 (h _ (List.mem_singleton.2 rfl) 9 1 true 55 rfl)

/-- a late NON-cumulative checkpoint also changes the result of the unrepaired code (the logged decision) -/
example :
    compile false (evs ++ [⟨3, 103, .checkpoint 9 1 false 55⟩]) anchor (fun _ => 0) ≠
      compile false evs anchor (fun _ => 0) := by decide

/-! ### non-vacuity -/

/-- a longer thread: 4 messages with replies, two cumulative checkpoints (to_seq 2 and 5), tail message -/
def thread : List F :=
  [ ⟨0, 100, .other⟩,
    ⟨1, 101, .message 11⟩, ⟨2, 102, .runEnded 101 1⟩,
    ⟨3, 103, .message 12⟩, ⟨4, 104, .other⟩, ⟨5, 105, .runEnded 103 2⟩,
    ⟨6, 106, .checkpoint 201 2 true 301⟩,
    ⟨7, 107, .message 13⟩, ⟨8, 108, .runEnded 107 3⟩,
    ⟨9, 109, .checkpoint 202 5 true 302⟩,
    ⟨10, 110, .message 14⟩ ]

def reply (s : Nat) : Nat := 1000 + s

example : Valid thread := by decide

/-- compiled at the head with the hierarchical strategy: two summary refs (to_seq 2 ≤ 5 / 2), then the
messages after the latest summary with their replies -/
example : compile true thread 110 reply =
    some { fromSeq := 10, strategy := .hierarchical, cause := .checkpointHierarchy, reset := false,
           selected := [201, 202],
           items := [.summaryRef 301 2, .summaryRef 302 5, .user 13 7 107, .assistant 1003, .user 14 10 110] } := by
  decide

/-- a mid-thread anchor: the cut is fixed at the frame before the next message (6), the checkpoint frames
6 (to_seq 2) is used, the one at 9 is not; the reply at seq 8 is after the cut and is not included -/
example : cutpoint thread 103 = some 6 := by decide

example : compile true thread 103 reply =
    some { fromSeq := 6, strategy := .summaries, cause := .checkpoint, reset := false, selected := [201],
           items := [.summaryRef 301 2, .user 12 3 103, .assistant 1002] } := by decide

/-- the unrepaired code differs on this anchor: the checkpoint frame at seq 9 (after the cut 6) has
to_seq 5 ≤ 6 and is used, dropping the run's own message from its context -/
example : compile false thread 103 reply =
    some { fromSeq := 6, strategy := .hierarchical, cause := .checkpointHierarchy, reset := false,
           selected := [201, 202], items := [.summaryRef 301 2, .summaryRef 302 5] } := by decide

/-- likewise on the first message: its cut is 2, and the checkpoint frame at seq 6 has to_seq 2 -/
example : compile false thread 101 reply ≠ compile true thread 101 reply := by decide

/-- the two semantics agree where no checkpoint frame after the cut summarises up to the cut or before -/
example : compile false thread 107 reply = compile true thread 107 reply := by decide
example : compile false thread 110 reply = compile true thread 110 reply := by decide

/-- an unknown anchor compiles to nothing -/
example : compile true thread 999 reply = none := by decide

end Rip.Cex.C08
