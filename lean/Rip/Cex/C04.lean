import Rip.Model.Cache
import Rip.Model.SeekIndex
/-!
C04 counterexamples: what the tail-scanning read paths do before the repairs (`asIs`), before
`scan_tail` had its head check (`current'`: exit at the largest window, per-window reset, fallback)
and repaired.
Everything is checked on small literals by `decide`; the loops that never end are shown stuck at a
window that goes on without growing (`spins`).
-/
namespace Rip.Cex.C04
open Rip.Cache

/-- the code before `scan_tail` had its head check -/
def current' : Shape := { exitAtMax := true, resetAcc := true, headCheck := false, fallback := true }
/-- `current'` minus the per-window reset of the accumulator -/
def noReset : Shape := { exitAtMax := true, resetAcc := false, headCheck := false, fallback := true }
/-- `current'` minus the fallback of an incomplete cursor scan -/
def noFallback : Shape := { exitAtMax := true, resetAcc := true, headCheck := false, fallback := false }

/-! ### 1. before the repair the loops never end on a thread longer than the largest window -/

def threeOthers : List F := [⟨0, .other⟩, ⟨1, .other⟩, ⟨2, .other⟩]

/-- a call that one more window turns into itself never ends -/
theorem spins {α : Type} {f : Nat → Option α} (h0 : f 0 = none) (hs : ∀ fuel, f (fuel + 1) = f fuel) :
    ∀ fuel, f fuel = none
  | 0 => h0
  | fuel + 1 => (hs fuel).trans (spins h0 hs fuel)

/-- window 1 goes on to window 2 = `max`, which does not leave and repeats for ever -/
theorem selection_diverges_as_is :
    ∃ (cs : List F) (limit w0 max : Nat), 0 < w0 ∧ ∀ fuel, selectionLoop asIs cs limit w0 max [] fuel = none :=
  ⟨threeOthers, 1, 1, 2, by decide, fun
    | 0 => rfl
    | fuel + 1 => spins (f := selectionLoop asIs threeOthers 1 2 2 []) rfl (fun _ => rfl) fuel⟩

theorem cursor_diverges_as_is :
    ∃ (cs : List F) (w0 max : Nat), 0 < w0 ∧ ∀ fuel, cursorLoop asIs cs w0 max fuel = none :=
  ⟨threeOthers, 1, 2, by decide, fun
    | 0 => rfl
    | fuel + 1 => spins (f := cursorLoop asIs threeOthers 2 2) rfl (fun _ => rfl) fuel⟩

/-- the same call ends once the loop leaves at the largest window (and falls back to the truth log) -/
theorem selection_ends_with_exit :
    selectionLoop current' threeOthers 1 1 2 [] 2 = some ([], true, false) ∧
    cursorLoop current' threeOthers 1 2 2 = some (some ({ active := none, cursors := [] }, false)) := by decide

/-- `0 < w0` is needed: a first window of 0 frames never grows, even repaired -/
theorem zero_window_spins (fuel : Nat) : selectionLoop repaired threeOthers 1 0 2 [] fuel = none :=
  spins rfl (fun _ => rfl) fuel

/-! ### 2. without the per-window reset the answer has duplicates -/

def twoFrames : List F := [⟨0, .other⟩, ⟨1, .decision⟩]

theorem selection_duplicates_as_is_reset : ∃ (fs : List F) (limit w0 max fuel : Nat),
    selectionFast { exitAtMax := true, resetAcc := false, headCheck := false, fallback := true }
      fs fs limit w0 max fuel ≠ some (selectionTruth fs limit) ∧
    selectionFast current' fs fs limit w0 max fuel = some (selectionTruth fs limit) :=
  ⟨twoFrames, 2, 1, 2, 2, by decide⟩

/-- the run: window 1 sees decision 1, window 2 sees it again -/
example : selectionFast noReset twoFrames twoFrames 2 1 2 2 = some [1, 1] := by decide
example : selectionFast current' twoFrames twoFrames 2 1 2 2 = some [1] := by decide
example : selectionTruth twoFrames 2 = [1] := by decide

/-- without the fallback an incomplete cursor scan is returned as the answer: key 7 is missing -/
theorem cursor_partial_without_fallback : ∃ (fs : List F) (w0 max fuel : Nat),
    cursorFast noFallback fs fs w0 max fuel ≠ some (cursorTruth fs) ∧
    cursorFast noFallback fs fs w0 max fuel ≠ none ∧
    cursorFast current' fs fs w0 max fuel = some (cursorTruth fs) :=
  ⟨[⟨0, .cursor 7⟩, ⟨1, .cursor 9⟩, ⟨2, .other⟩], 1, 2, 2, by decide⟩

/-! ### 3. a cache that holds only a suffix of the thread -/

def twoDecisions : List F := [⟨0, .decision⟩, ⟨1, .decision⟩]

/-- without the head check a suffix-only cache is taken for the whole thread -/
theorem suffix_only_cache_wrong_now : ∃ (fs cs : List F) (limit w0 max fuel : Nat),
    (∃ pre, fs = pre ++ cs) ∧ cs ≠ [] ∧
    selectionFast current' fs cs limit w0 max fuel ≠ some (selectionTruth fs limit) ∧
    selectionFast current' fs cs limit w0 max fuel ≠ none :=
  ⟨twoDecisions, [⟨1, .decision⟩], 2, 1, 1, 2, ⟨[⟨0, .decision⟩], rfl⟩, by decide, by decide, by decide⟩

example : selectionFast current' twoDecisions [⟨1, .decision⟩] 2 1 1 2 = some [1] := by decide
example : selectionTruth twoDecisions 2 = [1, 0] := by decide
/-- repaired: the tail reached the start but starts at seq 1 ⇒ rejected ⇒ truth -/
example : selectionFast repaired twoDecisions [⟨1, .decision⟩] 2 1 1 2 = some [1, 0] := by decide

/-- the cursor query likewise: the older key is lost -/
theorem suffix_only_cache_wrong_now_cursor : ∃ (fs cs : List F) (w0 max fuel : Nat),
    (∃ pre, fs = pre ++ cs) ∧ cs ≠ [] ∧
    cursorFast current' fs cs w0 max fuel ≠ some (cursorTruth fs) ∧
    cursorFast current' fs cs w0 max fuel ≠ none ∧
    cursorFast repaired fs cs w0 max fuel = some (cursorTruth fs) :=
  ⟨[⟨0, .cursor 7⟩, ⟨1, .cursor 9⟩], [⟨1, .cursor 9⟩], 1, 1, 2, ⟨[⟨0, .cursor 7⟩], rfl⟩,
    by decide, by decide, by decide, by decide⟩

/-- why `faithful_suffix` needs `cs ≠ []`: an EMPTY file scans as an empty tail that "reached
the start" and has no head to check, so even repaired the answer is empty, for every fuel -/
theorem empty_cache_wrong_even_repaired : ∃ (fs : List F) (limit w0 max : Nat),
    Valid fs ∧ SuffixOf [] fs ∧ 0 < w0 ∧
    ∀ fuel, selectionFast repaired fs [] limit w0 max fuel ≠ some (selectionTruth fs limit) := by
  refine ⟨[⟨0, .decision⟩], 1, 1, 1, ?_, ⟨[⟨0, .decision⟩], rfl⟩, by decide, ?_⟩
  · intro i h
    match i, h with
    | 0, _ => rfl
  · intro fuel
    cases fuel with
    | zero => decide
    | succ n => exact (by decide : (some [] : Option (List Nat)) ≠ some [0])

theorem empty_cache_wrong_even_repaired_cursor : ∃ (fs : List F) (w0 max : Nat),
    Valid fs ∧ SuffixOf [] fs ∧ 0 < w0 ∧
    ∀ fuel, cursorFast repaired fs [] w0 max fuel ≠ some (cursorTruth fs) := by
  refine ⟨[⟨0, .cursor 7⟩], 1, 1, ?_, ⟨[⟨0, .cursor 7⟩], rfl⟩, by decide, ?_⟩
  · intro i h
    match i, h with
    | 0, _ => rfl
  · intro fuel
    cases fuel with
    | zero => decide
    | succ n =>
      exact (by decide : (some { active := none, cursors := [] } : Option CursorAnswer) ≠
        some { active := some 0, cursors := [(7, 0)] })

example : selectionFast repaired [⟨0, .decision⟩] [] 1 1 1 1 = some [] := by decide
example : cursorFast repaired [⟨0, .cursor 7⟩] [] 1 1 1 = some { active := none, cursors := [] } := by decide

/-! ### 4. a cache rolled back to an earlier version (a prefix of the thread) passes every check -/

theorem prefix_only_cache_wrong_even_repaired : ∃ (fs cs : List F) (limit w0 max fuel : Nat),
    (∃ post, fs = cs ++ post) ∧
    selectionFast repaired fs cs limit w0 max fuel ≠ some (selectionTruth fs limit) ∧
    selectionFast repaired fs cs limit w0 max fuel ≠ none :=
  ⟨twoDecisions, [⟨0, .decision⟩], 1, 1, 1, 2, ⟨[⟨1, .decision⟩], rfl⟩, by decide, by decide⟩

example : selectionFast repaired twoDecisions [⟨0, .decision⟩] 1 1 1 2 = some [0] := by decide
example : selectionTruth twoDecisions 1 = [1] := by decide

theorem prefix_only_cache_wrong_even_repaired_cursor : ∃ (fs cs : List F) (w0 max fuel : Nat),
    (∃ post, fs = cs ++ post) ∧
    cursorFast repaired fs cs w0 max fuel ≠ some (cursorTruth fs) ∧
    cursorFast repaired fs cs w0 max fuel ≠ none :=
  ⟨[⟨0, .cursor 7⟩, ⟨1, .cursor 7⟩], [⟨0, .cursor 7⟩], 1, 1, 2, ⟨[⟨1, .cursor 7⟩], rfl⟩, by decide, by decide⟩

/-! ### concrete runs: a 5-frame thread with two decisions and two cursor keys -/

def thread5 : List F :=
  [⟨0, .cursor 7⟩, ⟨1, .decision⟩, ⟨2, .cursor 9⟩, ⟨3, .decision⟩, ⟨4, .other⟩]

example : selectionTruth thread5 2 = [3, 1] := by decide
example : cursorTruth thread5 = { active := some 2, cursors := [(9, 2), (7, 0)] } := by decide

/-- the tails of windows 1, 2, 4 and 8 -/
example : tailOf thread5 1 = { events := [⟨4, .other⟩], reachedStart := false } := by decide
example : tailOf thread5 2 = { events := [⟨3, .decision⟩, ⟨4, .other⟩], reachedStart := false } := by decide
example : tailOf thread5 4 =
    { events := [⟨1, .decision⟩, ⟨2, .cursor 9⟩, ⟨3, .decision⟩, ⟨4, .other⟩], reachedStart := false } := by decide
example : tailOf thread5 8 = { events := thread5, reachedStart := true } := by decide

/-- windows 1 → 2 → 4 (= max): still running after one and two windows, done after three -/
example : selectionLoop current' thread5 2 1 4 [] 1 = none := by decide
example : selectionLoop current' thread5 2 1 4 [] 2 = none := by decide
example : selectionLoop current' thread5 2 1 4 [] 3 = some ([3, 1], true, false) := by decide
example : selectionFast current' thread5 thread5 2 1 4 3 = some [3, 1] := by decide
/-- limit 1 is satisfied by window 2; the loop leaves at the next check -/
example : selectionLoop current' thread5 1 1 4 [] 3 = some ([3], true, false) := by decide
/-- limit 3 is not satisfied by the largest window: incomplete and short ⇒ the truth log answers -/
example : selectionLoop current' thread5 3 1 4 [] 3 = some ([3, 1], true, false) := by decide
example : selectionFast current' thread5 thread5 3 1 4 3 = some [3, 1] := by decide
/-- windows 1 → 2 → 4 → 8: the last one reaches the start -/
example : selectionLoop current' thread5 3 1 8 [] 4 = some ([3, 1], true, true) := by decide
example : selectionLoop repaired thread5 3 1 8 [] 4 = some ([3, 1], true, true) := by decide

/-- before the repairs, limit 3, windows 1 → 2 → 4 → 4: the accumulator is never reset -/
example : selectionLoop asIs thread5 3 1 4 [] 4 = some ([3, 3, 1], true, false) := by decide
example : selectionFast asIs thread5 thread5 3 1 4 4 = some [3, 3, 1] := by decide
/-- … with limit 2 and windows 1 → 2 → 2 the one visible decision fills the answer twice -/
example : selectionLoop asIs thread5 2 1 2 [] 4 = some ([3, 3], true, false) := by decide
/-- … and over a window that shows no decision it is still running after 50 windows -/
example : selectionLoop asIs thread5 1 1 1 [] 50 = none := spins rfl (fun _ => rfl) 50
example : cursorLoop asIs thread5 1 2 50 = none :=
  have h : ∀ fuel, cursorLoop asIs thread5 1 2 fuel = none
    | 0 => rfl
    | fuel + 1 => spins (f := cursorLoop asIs thread5 2 2) rfl (fun _ => rfl) fuel
  h 50

/-- cursor status, windows 1 → 2 → 4 (= max): one key found, scan incomplete ⇒ fallback to truth -/
example : cursorLoop current' thread5 1 4 2 = none := by decide
example : cursorLoop current' thread5 1 4 3 =
    some (some ({ active := some 2, cursors := [(9, 2)] }, false)) := by decide
example : cursorFast current' thread5 thread5 1 4 3 =
    some { active := some 2, cursors := [(9, 2), (7, 0)] } := by decide
example : cursorFast noFallback thread5 thread5 1 4 3 =
    some { active := some 2, cursors := [(9, 2)] } := by decide
/-- windows 1 → 2 → 4 → 8: complete -/
example : cursorLoop current' thread5 1 8 4 =
    some (some ({ active := some 2, cursors := [(9, 2), (7, 0)] }, true)) := by decide

/-- a suffix-only cache of `thread5` (frames 2..4), without the head check and repaired -/
example : selectionFast current' thread5 (thread5.drop 2) 2 1 4 3 = some [3] := by decide
example : selectionFast repaired thread5 (thread5.drop 2) 2 1 4 3 = some [3, 1] := by decide
example : cursorFast current' thread5 (thread5.drop 2) 1 4 3 =
    some { active := some 2, cursors := [(9, 2)] } := by decide
example : cursorFast repaired thread5 (thread5.drop 2) 1 4 3 =
    some { active := some 2, cursors := [(9, 2), (7, 0)] } := by decide

/-! ### 5. a seek index that is wrong where the loader does not look (`Rip.Model.SeekIndex`) -/

namespace Seek
open Rip.SeekIndex

/-- six one-byte message frames, seq 0..5 -/
def six : List Line := (List.range 6).map (fun i => ⟨i, true, true, 0⟩)
/-- stride 2: entries for 0, 2, 4 — the middle one carries the offset of frame 4 -/
def skewed : List Entry := [⟨0, 0⟩, ⟨2, 4⟩, ⟨4, 4⟩]
def good : List Entry := [⟨0, 0⟩, ⟨2, 2⟩, ⟨4, 4⟩]

/-- the loader accepts the skewed index (monotonic, last entry right) … -/
theorem skewed_index_loads : ensure 2 six (some skewed) = some skewed := by decide

/-- … and before the repair the window for "the newest message at or below seq 3" came back EMPTY
instead of [3]; with the check at use the read is refused (and the caller falls back to the log) -/
theorem skewed_index_wrong_before_repair :
    window false 2 100 six (some skewed) 3 1 = some [] ∧
    windowLinear 100 six 3 1 = [3] ∧
    window true 2 100 six (some skewed) 3 1 = none := by decide

/-- non-vacuity: a right index is used and answers (it is not refused), also when it had to be rebuilt -/
theorem good_index_answers :
    window true 2 100 six (some good) 3 1 = some [3] ∧
    window true 2 100 six none 3 1 = some [3] ∧
    window true 2 100 six (some []) 5 2 = some [4, 5] ∧
    rebuild 2 six = some good := by decide

end Seek

end Rip.Cex.C04
