/-
C02 — the truth log is append-only; read-only and no-op capabilities never write.
Property theorems only. Model: Rip/Model/LogBytes.lean (+ the planner model of C09 for the no-op
and dry-run invocations). Regenerated fragments: Rip/Gen/LogEffects.lean (how impl EventLog opens
and writes the file), Rip/Gen/CallGraph.lean (which ContinuityStore functions can reach a log
append), Rip/Gen/EffectOrder.lean (what EventLog::append does).
-/
import Rip.Lemmas.LogBytes
import Rip.Lemmas.Compaction
import Rip.Gen.LogEffects
import Rip.Gen.CallGraph
import Rip.Gen.EffectOrder
namespace Rip.Props.C02
open Rip.Proto Rip.LogBytes

/-- every append leaves the previous file content as an exact prefix -/
theorem append_only (log : Bytes) (frames : List Bytes) : log <+: appendAll log frames :=
  appendAll_prefix log frames

/-- …and adds only whole, newline-terminated frames: the lines of the new log are the old lines
followed by exactly the appended frames (no frame is split, merged or altered) -/
theorem adds_whole_frames (log line : Bytes) (hw : WholeLines log) (hn : NoNl line) :
    WholeLines (appendLine log line) ∧ linesOf (appendLine log line) = linesOf log ++ [line] :=
  ⟨appendLine_whole log line, linesOf_appendLine log line hw hn⟩

theorem append_all_whole (log : Bytes) (frames : List Bytes) (hw : WholeLines log) :
    WholeLines (appendAll log frames) := appendAll_whole log frames hw

/-! ### obligations over regenerated fragments -/

/-- the truth file is only ever opened create+append — never truncated, never opened for plain
write — and `impl EventLog` contains no File::create / set_len / seek / rename / remove call -/
theorem gen_log_opened_append_only :
    Rip.Gen.LogEffects.opens.all (fun o => o.append && !o.truncate && !o.createNew) = true ∧
    Rip.Gen.LogEffects.opens ≠ [] ∧ Rip.Gen.LogEffects.destructiveCalls = 0 := by decide

/-- `EventLog::append` is: take the writer lock, write the body, write the newline, flush, unlock -/
theorem gen_log_append_shape :
    Rip.Gen.orderOf 30 = [.lock 5, .fsWrite, .fsWrite, .fsFlush, .unlock 5] := by decide

/-- **Read-only capabilities never write, for every argument**: in the call graph of
`impl ContinuityStore`, none of replay_events, compaction_cut_points_v1, compaction_status_v1,
provider_cursor_status_v1, context_selection_status_v1, list, get, subscribe and the three
compile-input loaders can reach a function that appends to the event log; and no cache-layer file
mentions the event log at all. -/
theorem gen_readonly_never_append :
    Rip.Gen.CallGraph.readOnlyEntries.all (fun e => !canAppend Rip.Gen.CallGraph.fns e) = true ∧
    Rip.Gen.CallGraph.readOnlyEntries.length = 11 ∧
    Rip.Gen.CallGraph.cacheFilesMentioningLog = 0 := by decide

/-- non-vacuity of the reachability check: some function does reach an append -/
theorem gen_some_function_appends :
    (Rip.Gen.CallGraph.fns.map (·.1)).any (fun e => canAppend Rip.Gen.CallGraph.fns e) = true := by decide

/-! ### no-op and dry-run invocations (planner model of C09) -/

/-- auto compaction with nothing to do, or as a dry run, appends nothing — for every thread, stride,
max_new and id supply -/
theorem auto_noop_or_dry_run_silent (T : Rip.Compaction.Thread) (fresh : Nat → Nat)
    (job stride maxNew : Nat) (dry : Bool)
    (h : Rip.Compaction.plan T stride maxNew = [] ∨ dry = true) :
    (Rip.Compaction.auto T fresh job stride maxNew dry).2.2 = [] :=
  Rip.Compaction.auto_noop_or_dry_run_silent T fresh job stride maxNew dry h

/-- the scheduler with nothing to do, or as a dry run, appends nothing -/
theorem schedule_noop_or_dry_run_silent (T : Rip.Compaction.Thread) (fresh : Nat → Nat)
    (job stride maxNew : Nat) (b e d : Bool)
    (h : Rip.Compaction.plan T stride maxNew = [] ∨ d = true) :
    (Rip.Compaction.schedule T fresh job stride maxNew b e d).2.2 = [] :=
  Rip.Compaction.schedule_noop_or_dry_run_silent T fresh job stride maxNew b e d h

/-- the planner functions that spawn compaction jobs (`compaction_auto_schedule_spawn_job_v1`,
`compaction_auto_spawn_job_v1`) return from their dry-run gate before anything that appends a frame
(the in-flight check of the scheduler appends a decision frame, so it must come after the gate) -/
theorem gen_dry_run_gate_precedes_appends :
    (Rip.Gen.orderOf 45).head? = some .dryRunGate ∧ (Rip.Gen.orderOf 46).head? = some .dryRunGate ∧
    (Rip.Gen.orderOf 45).contains .appendFrame = true := by decide

end Rip.Props.C02
