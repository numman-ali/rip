/-
C12 — patch application is all-or-nothing and exact when it succeeds.
Property theorems only. Model: Rip/Model/Patch.lean, Rip/Model/PatchParse.lean.
-/
import Rip.Lemmas.PatchExact
import Rip.Lemmas.PatchAtomic
import Rip.Lemmas.PatchText
import Rip.Lemmas.Paths
namespace Rip.Props.C12
open Rip.Proto Rip.Patch Rip.Text

/-- **All-or-nothing on failure.** For every well-formed workspace state and every operation list:
if the engine reports an error, every path has exactly the file content it had before (in particular
no new file remains). Carried by the undo-list invariant proved in Rip/Lemmas/PatchAtomic.lean
(`Inv` forward, `RR` for the reverse-order revert). `fb` is the "some file lives strictly below p"
test of the repaired revert; the driver computes it over the finite universe of a case. -/
theorem atomic (fb : FS → Path → Bool) (hfb : FileBelowSpec fb) (fs : FS) (hwf : WF fs)
    (ops : List Op) (e : Err) (fs' : FS)
    (h : applyPatchOps fb fs ops = (.error e, fs')) : ∀ q, fs'.file q = fs.file q :=
  Rip.Patch.atomic fb hfb fs hwf ops e fs' h

/-- **Exact on success.** If the engine reports success, the resulting workspace is the result of
performing the patch's operations in order (`specRun`, which knows nothing about undo lists), and
the reported changed files are exactly the named files, sorted and de-duplicated. Holds for every
file-system state and every operation list. -/
theorem exact (fb : FS → Path → Bool) (fs fs' : FS) (ops : List Op) (changed : List Bytes)
    (h : applyPatchOps fb fs ops = (.ok changed, fs')) :
    specRun fs ops = some fs' ∧ changed = sortDedup ((ops.map named).flatten) := by
  obtain ⟨s, hs, rfl, rfl⟩ := applyPatchOps_ok h
  obtain ⟨hrun, hchanged⟩ := applyOps_exact _ s ops hs
  exact ⟨hrun, by rw [hchanged, List.nil_append]⟩

/-- A failed parse never reaches the engine: the driver-level function leaves the workspace as is.
(`parsePatch` is total: every byte string is either a list of operations or a parse error.) -/
theorem parser_total (input : Bytes) : (∃ ops, parsePatch input = .ok ops) ∨ (∃ e, parsePatch input = .error e) := by
  cases h : parsePatch input with
  | ok ops => exact Or.inl ⟨ops, rfl⟩
  | error e => exact Or.inr ⟨e, rfl⟩

/-- Every path the parser accepts is relative and free of parent-directory components. -/
theorem parsed_path_confined (raw : Bytes) (p : RPath) (h : parseRelPath raw = .ok p) :
    isAbsolute (trim raw) = false ∧ (components (trim raw)).all (· != .parentDir) = true ∧
    p.comps = normals (components (trim raw)) := by
  obtain ⟨ha, hp, hc⟩ := Rip.Paths.parseRelPath_ok h
  exact ⟨ha, Rip.Paths.all_bne_of_any_beq_false hp, hc⟩

/-- `find_subslice_from`: a reported position is at or after the cursor and is a real match. -/
theorem findFrom_sound (hay needle : List Bytes) (start pos : Nat)
    (h : findFrom hay needle start = some pos) :
    start ≤ pos ∧ (hay.drop pos).take needle.length = needle ∧ pos + needle.length ≤ hay.length := by
  unfold findFrom at h
  obtain ⟨hlen, h⟩ := Option.ite_none_left_eq_some.1 h
  obtain ⟨hr, hp⟩ := List.mem_filter.1 (List.mem_of_head? h)
  obtain ⟨h1, h2⟩ := Bool.and_eq_true_iff.1 hp
  -- given by name: instance search tries five order-based `LawfulBEq UInt8` instances first, each time
  have : LawfulBEq UInt8 := instLawfulBEq
  exact ⟨of_decide_eq_true h1, eq_of_beq h2,
    Nat.add_le_of_le_sub (Nat.le_of_not_gt hlen) (Nat.le_of_lt_succ (List.mem_range.1 hr))⟩

/-- One hunk with non-empty context rewrites exactly the matched window and nothing else. -/
theorem hunk_local (lines : List Bytes) (cursor : Nat) (h : Hunk) (hne : h.before.isEmpty = false)
    (out : List Bytes) (hr : applyHunksLines lines cursor [h] = some out) :
    ∃ pos, cursor ≤ pos ∧ (lines.drop pos).take h.before.length = h.before ∧
      out = lines.take pos ++ h.after ++ lines.drop (pos + h.before.length) := by
  rw [applyHunksLines, if_neg (Bool.eq_false_iff.1 hne)] at hr
  split at hr
  · cases hr
  · next pos hp =>
    obtain ⟨h1, h2, _⟩ := findFrom_sound _ _ _ _ hp
    exact ⟨pos, h1, h2, (Option.some.inj hr).symm⟩

/-! ### text updates keep the line-ending style and the trailing newline -/

/-- **A text update preserves the file's line-ending style and trailing newline.** For every original
text and every list of hunks that applies (result lines `ls`): re-reading the written text gives
exactly `ls` and the original's trailing-newline flag, so every line break in the output is one the
writer put there, all in one style; the output ends with a newline iff the original did; and the
output contains a CRLF pair iff the original did (and at least one terminator was written).
Hypotheses, all explicit: the lines are what `split_lines` and the patch parser produce (no LF
inside, no CR at the end — `CleanLine`), the result is not the empty file, and — when the original
had no final newline — the result does not end in an empty line (a file cannot say "empty last
line, no newline"). Proofs: Rip/Lemmas/PatchText.lean. -/
theorem update_preserves_style_and_trailing_newline (original out : Bytes) (hunks : List Hunk)
    (ls : List Bytes)
    (h : applyHunks original hunks = some out)
    (hls : applyHunksLines (splitLines original).1 0 hunks = some ls)
    (hne : ls ≠ [])
    (horig : ∀ l ∈ (splitLines original).1, CleanLine l)
    (hafter : ∀ hk ∈ hunks, ∀ l ∈ hk.after, CleanLine l)
    (hlast : (splitLines original).2 = true ∨ ls.getLast? ≠ some []) :
    splitLines out = (ls, (splitLines original).2) ∧
    ((out.getLast? == some 10) = (original.getLast? == some 10)) ∧
    hasCrLf out = (hasCrLf original && ((splitLines original).2 || decide (2 ≤ ls.length))) := by
  rw [applyHunks_eq, hls] at h
  cases h
  have hclean : ∀ l ∈ ls, CleanLine l :=
    applyHunksLines_forall CleanLine hunks hafter _ _ _ hls horig
  have hread := joinLines_read ls (splitLines original).2 original hne hclean hlast
  -- the trailing flag `split_lines` reports is "the text ends in LF"
  exact ⟨hread.1, congrArg Prod.snd hread.1, hread.2⟩

/-- Every successful update has this shape (no hypothesis): the hunks are applied to the split
lines, and the result is joined with the original's trailing flag and terminator. -/
theorem update_shape (original out : Bytes) (hunks : List Hunk)
    (h : applyHunks original hunks = some out) :
    ∃ ls, applyHunksLines (splitLines original).1 0 hunks = some ls ∧
          out = joinLines ls (splitLines original).2 (leOf original) := by
  rw [applyHunks_eq] at h
  obtain ⟨ls, hls, rfl⟩ := Option.map_eq_some_iff.1 h
  exact ⟨ls, hls, rfl⟩

/-- **Untouched text is reproduced byte for byte**: on a uniformly terminated text (pure LF with no
CR anywhere, or pure CRLF with every LF preceded by CR) that does not end in a bare CR, splitting
and re-joining is the identity. The last hypothesis is sharp: "\r\n\r" loses its final CR
(`example` in Rip/Lemmas/PatchText.lean; the implementation does the same, which the correspondence
run confirms — a bare CR at the very end of a text is neither a line-ending style nor a trailing
newline, so this is recorded as the boundary of the theorem, not as a violation). -/
theorem untouched_text_identity (text : Bytes) (hne : text ≠ [])
    (huni : ∀ l ∈ (splitLines text).1, CleanLine l)
    (hstyle : hasCrLf text = true → ∀ i : Nat, text[i]? = some 10 → 0 < i ∧ text[i-1]? = some 13)
    (hlf : hasCrLf text = false → 13 ∉ text)
    (hend : text.getLast? ≠ some 13) :
    joinLines (splitLines text).1 (splitLines text).2 (leOf text) = text := by
  -- `hne` and `huni` are not needed
  have _ := hne
  have _ := huni
  unfold leOf
  cases h : hasCrLf text with
  | true => exact joinLines_splitLines_crlf text (hstyle h) hend
  | false => exact joinLines_splitLines_lf text (hlf h)

/-- non-vacuity: "a\r\nb\r\n", replace "b" by "c","d" -/
example : applyHunks [97, 13, 10, 98, 13, 10] [⟨[[98]], [[99], [100]]⟩]
    = some [97, 13, 10, 99, 13, 10, 100, 13, 10] := by decide

/-! ### non-vacuity: the round-0 defect scenario, now restored by the repaired revert -/

def wsA : FS :=
  { file := fun q => if q = [[97]] then some [112] else none, dir := fun q => q = [] }

def rp (comps : Path) : RPath := { comps := comps, mustDir := false, raw := intercalate [47] comps }

def fbA : FS → Path → Bool := fun fs p =>
  [[[97]], [[97], [98]], [[109]]].any (fun q => p.isPrefixOf q && q != p && (fs.file q).isSome)

def scenario : Except Err (List Bytes) × FS :=
  applyPatchOps fbA wsA [.delete (rp [[97]]), .add (rp [[97], [98]]) [120], .delete (rp [[109]])]

/-- `[Delete a; Add a/b; Delete m]` on `{a ↦ "p"}` fails and `a` has its bytes back. -/
example : scenario.2.file [[97]] = some [112] := by decide

example : (match scenario.1 with | .error .notFound => true | _ => false) = true := by decide

end Rip.Props.C12
