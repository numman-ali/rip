/-
C09 — compaction follows message count alone; idempotent and replay-safe.
Property theorems only. Model: Rip/Model/Compaction.lean. Proofs: Rip/Lemmas/Compaction.lean.
-/
import Rip.Lemmas.Compaction
namespace Rip.Props.C09
open Rip.Compaction

/-- cut points are exactly the k·stride-th messages, identified by that message's seq and id -/
theorem cut_is_kth_message (T : Thread) (stride limit : Nat) (hs : 0 < stride) (c : Cut)
    (hc : c ∈ cutPoints T stride limit) :
    ∃ k, 0 < k ∧ c.ordinal = k * stride ∧ c.ordinal ≤ (messages T).length ∧
      ∃ m, (messages T)[c.ordinal - 1]? = some m ∧ c.toSeq = m.seq ∧ c.msgId = m.id :=
  Rip.Compaction.cut_is_kth_message T stride limit hs c hc

/-- …the latest multiples first, at most clamp(limit,1,32) of them -/
theorem cut_points_are_latest_multiples (T : Thread) (stride limit : Nat) (hs : 0 < stride) :
    (cutPoints T stride limit).map (·.ordinal) =
      ((List.range (clamp limit 1 32)).map (fun i => ((messages T).length / stride) * stride - i * stride)).filter (· ≠ 0) ∧
    (cutPoints T stride limit).length ≤ 32 :=
  have _ := hs
  ⟨cut_ordinals T stride limit, cut_count_bounded T stride limit⟩

/-- a cut point counts as checkpointed exactly when a checkpoint frame for that seq exists,
the latest such frame by stream order winning -/
theorem already_iff (T : Thread) (stride limit : Nat) (c : Cut) (hc : c ∈ cutPoints T stride limit) :
    c.already = true ↔ ∃ f ∈ T, f.kind = .ckpt c.toSeq := Rip.Compaction.already_iff T stride limit c hc

theorem latest_checkpoint_wins (T : Thread) (stride limit : Nat) (c : Cut) (hc : c ∈ cutPoints T stride limit)
    (i : Nat) (hi : c.latestCkpt = some i) :
    ∃ f ∈ T, f.id = i ∧ f.kind = .ckpt c.toSeq ∧ ∀ g ∈ T, g.kind = .ckpt c.toSeq → g.seq ≤ f.seq :=
  latest_wins T stride limit c hc i hi

/-- compaction follows message count alone: other frames do not move cut points -/
theorem follows_message_count_alone (T : Thread) (stride limit : Nat) (f : F)
    (hf : f.kind ≠ .message) (hk : ∀ q, f.kind ≠ .ckpt q) :
    cutPoints (T ++ [f]) stride limit = cutPoints T stride limit :=
  cuts_ignore_other_frames T stride limit f hf hk

/-- the plan: not-yet-checkpointed cut points among the latest 32, latest first, capped -/
theorem plan_exact (T : Thread) (stride maxNew : Nat) :
    plan T stride maxNew = ((cutPoints T stride 32).filter (fun c => !c.already)).take (clamp maxNew 1 32) ∧
    (plan T stride maxNew).length ≤ 32 ∧ ∀ c ∈ plan T stride maxNew, c.already = false :=
  Rip.Compaction.plan_exact T stride maxNew

/-- auto-compaction creates precisely the planned checkpoints (ascending), bracketed by exactly one
job-spawned and one job-ended frame, continuing the thread's numbering -/
theorem job_creates_plan (T : Thread) (fresh : Nat → Nat) (job stride maxNew : Nat)
    (hne : plan T stride maxNew ≠ []) :
    let fs := (auto T fresh job stride maxNew false).2.2
    fs.head?.map (·.kind) = some (.jobSpawned job) ∧ fs.getLast?.map (·.kind) = some (.jobEnded job) ∧
    (fs.filter (fun f => match f.kind with | .ckpt _ => true | _ => false)).map (·.kind) =
      (sortCuts (plan T stride maxNew)).map (fun c => K.ckpt c.toSeq) ∧
    fs.length = (plan T stride maxNew).length + 2 ∧
    (fs.filter (fun f => f.kind == .jobSpawned job)).length = 1 ∧ (fs.filter (fun f => f.kind == .jobEnded job)).length = 1 :=
  auto_creates_plan T fresh job stride maxNew hne

theorem job_frames_continue_numbering (T : Thread) (fresh : Nat → Nat) (job stride maxNew : Nat) (dry : Bool) :
    ((auto T fresh job stride maxNew dry).2.2).map (·.seq) =
      List.range' (headSeq T) ((auto T fresh job stride maxNew dry).2.2).length :=
  auto_seqs_contiguous T fresh job stride maxNew dry

/-- the creation order is a sort of the plan (same cuts, ascending by (to_seq, message id)) -/
theorem creation_order_is_sorted_plan (cs : List Cut) :
    (sortCuts cs).Perm cs ∧ (sortCuts cs).Pairwise cutLe := ⟨sortCuts_perm cs, sortCuts_sorted cs⟩

/-- idempotence: repeated with nothing new to do it appends nothing (also as a dry run) -/
theorem idempotent (T : Thread) (fresh : Nat → Nat) (job stride maxNew : Nat) (dry : Bool)
    (h : plan T stride maxNew = [] ∨ dry = true) : (auto T fresh job stride maxNew dry).2.2 = [] :=
  auto_noop_or_dry_run_silent T fresh job stride maxNew dry h

/-- replay-safe: after a completed run every planned cut point is checkpointed -/
theorem planned_cuts_become_checkpointed (T : Thread) (fresh : Nat → Nat) (job stride maxNew : Nat) (c : Cut)
    (hc : c ∈ plan T stride maxNew) :
    ∃ f ∈ T ++ (auto T fresh job stride maxNew false).2.2, f.kind = .ckpt c.toSeq :=
  auto_then_done T fresh job stride maxNew c hc

/-! ### scheduler decisions -/

theorem scheduler_silent_when_nothing_to_do (T : Thread) (fresh : Nat → Nat) (job stride maxNew : Nat) (b e d : Bool)
    (h : plan T stride maxNew = [] ∨ d = true) : (schedule T fresh job stride maxNew b e d).2.2 = [] :=
  schedule_noop_or_dry_run_silent T fresh job stride maxNew b e d h

theorem scheduler_skips_when_job_in_flight (T : Thread) (fresh : Nat → Nat) (job stride maxNew : Nat) (e : Bool) (j : Nat)
    (hne : plan T stride maxNew ≠ []) (hj : inflight T = some j) :
    (schedule T fresh job stride maxNew true e false).1 = .skippedInflight ∧
    ((schedule T fresh job stride maxNew true e false).2.2).map (·.kind) = [.decided] :=
  schedule_skipped T fresh job stride maxNew e j hne hj

theorem scheduler_spawns_then_decides (T : Thread) (fresh : Nat → Nat) (job stride maxNew : Nat) (b e : Bool)
    (hne : plan T stride maxNew ≠ []) (hj : b = false ∨ inflight T = none) :
    (((schedule T fresh job stride maxNew b e false).2.2).take 2).map (·.kind) = [.jobSpawned job, .decided] :=
  schedule_spawns T fresh job stride maxNew b e hne hj

/-! ### non-vacuity -/
def T5 : Thread := [⟨0, 0, .other⟩, ⟨1, 1, .message⟩, ⟨2, 2, .other⟩, ⟨3, 3, .message⟩, ⟨4, 4, .message⟩,
  ⟨5, 5, .message⟩, ⟨6, 6, .ckpt 3⟩, ⟨7, 7, .message⟩]

example : (cutPoints T5 2 5).map (fun c => (c.ordinal, c.toSeq, c.already)) = [(4, 5, false), (2, 3, true)] := by decide
example : (plan T5 2 3).map (·.toSeq) = [5] := by decide

end Rip.Props.C09
