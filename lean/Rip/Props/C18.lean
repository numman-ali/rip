/-
C18 — a store never has two authorities; a live authority's lock is never taken.
Property theorems only. Model: Rip/Model/AuthLTS.lean (one transition = one file-system call of
local_authority.rs). Proofs: Rip/Lemmas/AuthLTS.lean. Counterexamples: Rip/Cex/C18.lean.

The full statement is FALSE of the code as it is (known finding, see known_findings.json): the
cleanup functions re-read / check the lock and then rename it in two separate calls. What is proved:
the protocol is correct under every schedule if those two calls were one step (`_partial`), the gap
is exactly what breaks it (`mutex_full_false`), and recovery from every leftover state works.
-/
import Rip.Lemmas.AuthLTS
import Rip.Cex.C18
import Rip.Gen.AuthRecovery
namespace Rip.Props.C18
open Rip.AuthLTS

/-- the full statement: never more than one authority, from every leftover state, under every
schedule of the protocol AS IMPLEMENTED (`atomic = false`) -/
def mutex_full : Prop :=
  ∀ (s0 : S), Leftover s0 → ∀ sched : List Act, holders (run false s0 sched) ≤ 1

/-- …which does not hold: two contenders that both re-read a dead authority's lock. The witness is
replayed on the real functions by the harness on every run. -/
theorem mutex_full_false : ¬ mutex_full := by
  intro h
  have := h (initStale 2 false) ⟨2, Or.inr (Or.inr (Or.inl rfl))⟩ Rip.Cex.C18.twoAuthoritiesSched
  rw [Rip.Cex.C18.two_authorities] at this
  omega

/-- with "re-read, then rename" as one step there is never more than one authority — for every
number of contenders, every schedule of steps, crashes and releases, from every leftover state -/
theorem mutex_partial (s0 : S) (h0 : Leftover s0) (sched : List Act) :
    holders (run true s0 sched) ≤ 1 :=
  ((LInv.leftover h0).run sched).holders_le_one

/-- …and a live authority's lock is never taken: whoever believes it is the authority owns the file -/
theorem never_steals_partial (s0 : S) (h0 : Leftover s0) (sched : List Act) (i : Nat)
    (hi : (run true s0 sched).pcs[i]? = some .holding) :
    (run true s0 sched).lock = some { owner := pidOf i, record := some (pidOf i) } :=
  ((LInv.leftover h0).run sched).own i .holding _ hi rfl

/-- recovery removes only the files of a process that is really gone (reachable states, atomic protocol) -/
theorem recovery_removes_only_dead (s0 : S) (h0 : Leftover s0) (sched : List Act) (i : Nat) (pc : Pc)
    (f : LockFile) (hpc : (run true s0 sched).pcs[i]? = some pc)
    (hclean : pc = .corruptCheck ∨ ∃ e, pc = .staleReread e)
    (hl : (run true s0 sched).lock = some f)
    (hrm : (stepProc true (run true s0 sched) i pc).lock = none) :
    (∃ e, f.record = some e ∧ alive (run true s0 sched) e = false) ∨
    (f.record = none ∧ alive (run true s0 sched) f.owner = false) :=
  -- what `cleanup_only_dead` asks of a stale cleanup, that the expected pid was seen dead, is `LInv.stale`
  cleanup_only_dead _ i pc f hclean
    (fun e he => ((LInv.leftover h0).run sched).stale i e (he ▸ hpc)) hl hrm

/-- a store whose previous authority crashed becomes usable again: from every leftover state a
scheduled contender becomes the authority — in the protocol as implemented, too -/
theorem store_recovers (atomic : Bool) (s0 : S) (h0 : Leftover s0) (hn : 0 < s0.pcs.length) :
    ∃ sched, (run atomic s0 sched).pcs[0]? = some .holding := recovers atomic s0 h0 hn

/-- `Drop` removes whatever lock file is at the path (second consequence of a stolen lock) -/
theorem drop_removes_foreign_lock :
    holders (run false (initStale 3 false) Rip.Cex.C18.dropStealsSched) = 2 :=
  Rip.Cex.C18.drop_removes_foreign_lock.1

/-- **obligation over the regenerated source**: in the recovery loop of `rip serve`
(`acquire_authority_lock_with_recovery`) the process whose liveness is checked is the one recorded in
the lock file that was just read, and that same pid is what the stale cleanup is told to expect — the
model's `staleReread e` carries exactly this `e`. (Checking the liveness of another record's pid, e.g.
the endpoint file's, lets a contender remove the lock of a live authority that has not yet published
its endpoint.) -/
theorem gen_recovery_checks_the_lock_owner :
    Rip.Gen.AuthRecovery.livenessOf = [Rip.Gen.AuthRecovery.lockPid] ∧
    Rip.Gen.AuthRecovery.cleanupExpects = [Rip.Gen.AuthRecovery.lockPid] := by decide

/-! ### the endpoint file of a live authority -/

/-- the meta step of the stale cleanup removes `meta.json` only when it carries the pid the cleanup
was entered for: an endpoint file published by anybody else — in particular by a newcomer that became
the authority after the stale lock was renamed away — stays, in every state and for both variants of
the protocol -/
theorem stale_meta_step_keeps_foreign_meta (atomic : Bool) (s : S) (i : Nat) (e p : Pid)
    (hm : s.metaPid = some p) (hne : p ≠ e) :
    (stepProc atomic s i (.staleMeta e)).metaPid = some p := by
  simp [stepProc, setPc, hm, hne]

/-- … and it is the only cleanup step that touches `meta.json` at all -/
theorem cleanup_steps_keep_meta (atomic : Bool) (s : S) (i : Nat) (pc : Pc)
    (hpc : pc = .corruptCheck ∨ pc = .corruptRename ∨ (∃ e, pc = .staleReread e) ∨ (∃ e, pc = .staleRename e)) :
    (stepProc atomic s i pc).metaPid = s.metaPid := by
  fun_cases stepProc atomic s i pc with
  -- the branches of `staleMeta` and `dropMeta` alone write the field
  | case16 | case23 => obtain h | h | ⟨_, h⟩ | ⟨_, h⟩ := hpc <;> cases h
  | _ => rfl

/-- non-vacuity: a live holder's endpoint file (pid 2) next to a recoverer that expects the dead pid 0 -/
example :
    let s : S := { lock := some { owner := 2, record := some 2 }, metaPid := some 2, pcs := [.staleMeta 0, .holding] }
    (stepProc false s 0 (.staleMeta 0)).metaPid = some 2 ∧ alive s 2 = true := by decide

/-- **obligation over the regenerated source**: in `try_cleanup_stale_authority_files` every rename
or removal of `meta_path` sits under the comparison `meta.pid == expected_pid` — the guard of the
model's `staleMeta e` step -/
theorem gen_stale_meta_removal_guarded :
    Rip.Gen.AuthRecovery.metaRemovalGuards ≠ [] ∧
    Rip.Gen.AuthRecovery.metaRemovalGuards.all
      (fun conds => conds.contains Rip.Gen.AuthRecovery.metaPidIsExpected) = true := by decide

end Rip.Props.C18
