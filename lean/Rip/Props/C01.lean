/-
C01 — per-stream total order: seq 0,1,2,… with no gap or duplicate, any schedule.
Property theorems only. Model: Rip/Model/StoreLTS.lean (one transition = one effect of an append /
creation function). Proofs: Rip/Lemmas/StoreLTS.lean. Witness of the repaired defect:
Rip/Cex/C01.lean. Regenerated fragment: Rip/Gen/EffectOrder.lean.
-/
import Rip.Lemmas.StoreLTS
import Rip.Cex.C01
import Rip.Gen.EffectOrder
import Rip.Lemmas.Emitters
import Rip.Lemmas.SeqAcct
import Rip.Gen.SeqAccounting
namespace Rip.Props.C01
open Rip.StoreLTS

/-- **Per-stream total order under ANY schedule.** For every number of concurrent writers, every
program of appends (any of the locked append functions) and thread creations (branch / handoff /
ensure_default) with fresh thread ids, and every interleaving of their effects — including
authority restarts that lose the in-memory seq map — every stream's frames carry seq 0,1,2,… in
file order, with no gap and no duplicate: a validated replay of the store succeeds. No assumption
about who addresses which thread when. -/
theorem seq_total_order (known : Nat → Bool) (progs : List (List Op)) (h : FreshIds known progs) (sched : List Act) :
    validLog (run true known progs sched).log = true := Rip.StoreLTS.seq_total_order known progs h sched

/-- the k-th frame of a stream carries seq k -/
theorem stream_seqs (known : Nat → Bool) (progs : List (List Op)) (h : FreshIds known progs) (sched : List Act) (σ : Nat) :
    ((run true known progs sched).log.filter (fun e => e.1 == σ)).map (·.2) =
      List.range (count (run true known progs sched).log σ) :=
  seqs_of_validLog _ (Rip.StoreLTS.seq_total_order known progs h sched) σ

/-- the seq mutex is a mutex: at most one writer is inside a critical section -/
theorem lock_exclusive (known : Nat → Bool) (progs : List (List Op)) (sched : List Act) (i j : Nat) (wi wj : W)
    (hi : (run true known progs sched).ws[i]? = some wi) (hj : (run true known progs sched).ws[j]? = some wj)
    (hci : 0 < wi.pc) (hcj : 0 < wj.pc) : i = j :=
  Option.some.inj
    ((lock_holder known progs sched i wi hi hci).symm.trans (lock_holder known progs sched j wj hj hcj))

/-- appends to a thread that is still being created are refused and write nothing -/
theorem no_frame_before_creation (known : Nat → Bool) (progs : List (List Op))
    (h : FreshIds known progs) (sched : List Act) (i : Nat) (w : W) (σ : Nat)
    (hi : (run true known progs sched).ws[i]? = some w) (hp : Pending w σ) :
    count (run true known progs sched).log σ = 0 :=
  (((good_run known progs h sched).inv.wf i w hi).pend σ hp).1

/-- the defect repaired by the `fix:` commit, kept as a checked witness: without the lock around the
creation a client that addresses the new thread early duplicates seq 1 -/
theorem unlocked_creation_loses_numbering :
    validLog (run false (fun _ => false) Rip.Cex.C01.branchRaceProgs Rip.Cex.C01.branchRaceSched).log = false :=
  Rip.Cex.C01.branch_race.2

/-! ### obligations over the regenerated effect orders -/

def idx (o : List Rip.Gen.Eff) (e : Rip.Gen.Eff) : Option Nat :=
  let i := o.findIdx (· == e)
  if i < o.length then some i else none

def lastIdx (o : List Rip.Gen.Eff) (e : Rip.Gen.Eff) : Option Nat :=
  match idx o.reverse e with
  | some i => some (o.length - 1 - i)
  | none => none

/-- the shape the theorem's `append` models: the seq lock is taken first and released last; the seq
is loaded, the log is appended, the map is bumped after the append — all inside the lock; the frame
is published after it is in the log -/
def criticalSection (o : List Rip.Gen.Eff) : Bool :=
  match idx o (.lock 3), lastIdx o (.unlock 3), idx o .logAppend, lastIdx o .bump, idx o .publish, idx o .seqLoad with
  | some l, some u, some a, some b, some p, some sl =>
    l == 0 && u == o.length - 1 && l < sl && sl < a && a < b && b < u && a < p && p < u &&
    (o.filter (· == .logAppend)).length == 1 && (o.filter (· == .lock 3)).length == 1 &&
    (o.filter (· == .unlock 3)).length == 1
  | _, _, _, _, _, _ => false

/-- all eleven append functions have that shape in the current source -/
theorem gen_appends_are_critical_sections :
    [10, 11, 12, 13, 14, 15, 16, 17, 18, 19, 20].all (fun id => criticalSection (Rip.Gen.orderOf id)) = true := by
  decide

/-- branch and handoff create the thread and write the lineage frame inside one seq-lock section -/
def lockedCreation (o : List Rip.Gen.Eff) : Bool :=
  match idx o (.lock 3), lastIdx o (.unlock 3), idx o .createThread, idx o .logAppend, lastIdx o .bump with
  | some l, some u, some c, some a, some b => l < c && c < a && a < b && b < u && (o.filter (· == .lock 3)).length == 1
  | _, _, _, _, _ => false

theorem gen_creations_are_locked :
    lockedCreation (Rip.Gen.orderOf 21) = true ∧ lockedCreation (Rip.Gen.orderOf 22) = true ∧
    -- ensure_default creates under the lock too
    (match idx (Rip.Gen.orderOf 24) (.lock 3), idx (Rip.Gen.orderOf 24) .createThread, lastIdx (Rip.Gen.orderOf 24) (.unlock 3) with
     | some l, some c, some u => l < c && c < u
     | _, _, _ => false) = true ∧
    -- create_continuity itself never takes the (non-reentrant) seq lock
    ((Rip.Gen.orderOf 23).contains (.lock 3)) = false := by decide

/-- the log file has its own mutex around body + newline + flush (frames never interleave) -/
theorem gen_log_append_atomic :
    Rip.Gen.orderOf 30 = [.lock 5, .fsWrite, .fsWrite, .fsFlush, .unlock 5] := by decide

/-! ### session and task streams -/

/-- **task streams (and session streams, the one-emitter case)**: for any number of concurrent
emitters on one stream (stdout pump, stderr pump, control frames), any frame counts and EVERY
interleaving of the effects of the emitter, the frames reach the log (recorded together with the log
append, inside the seq lock) as seq 0,1,2,… in order — no gap, no duplicate. The emitter's effect
order and the nesting of its two locks are re-proved on the regenerated source right below
(`gen_task_emit_numbers_inside_its_lock`: the per-task seq lock is taken first and released last,
around publish, record and the log append; the same obligation as
`Rip.Props.C06.gen_task_emit_seq_critical`). -/
theorem gen_task_emit_numbers_inside_its_lock :
    (Rip.Gen.orderOf 3).head? = some (.lock 2) ∧ (Rip.Gen.orderOf 3).getLast? = some (.unlock 2) ∧
    ((Rip.Gen.orderOf 3).filter (fun e => e == .lock 2 || e == .unlock 2)).length = 2 := by decide

theorem emitted_streams_numbered (counts sched : List Nat) :
    ∃ k, (Rip.Emitters.run true counts sched).recorded = List.range k :=
  Rip.Emitters.recorded_in_order counts sched

theorem emitted_streams_complete (counts sched : List Nat)
    (hd : Rip.Emitters.allDone (Rip.Emitters.run true counts sched) = true) :
    (Rip.Emitters.run true counts sched).recorded = List.range counts.sum :=
  (Rip.Emitters.complete counts sched hd).2

/-! ### frames numbered from a counter passed by reference (session, tool and task helpers) -/

/-- A helper that follows the discipline "frame literal numbered with the bare counter, then `+= 1`"
(batches standing alone) numbers its frames `n, n+1, …` and leaves the counter right behind the last
one, for every start value and all batch sizes: the next helper continues without gap or duplicate. -/
theorem counted_frames_numbered (ts : List Rip.SeqAcct.Tok) (ms : List Nat) (n : Nat)
    (h : Rip.SeqAcct.wellFormed ts = true) :
    (Rip.SeqAcct.run ts ms ⟨n, []⟩).frames = List.range' n (Rip.SeqAcct.run ts ms ⟨n, []⟩).frames.length ∧
    (Rip.SeqAcct.run ts ms ⟨n, []⟩).ctr = n + (Rip.SeqAcct.run ts ms ⟨n, []⟩).frames.length :=
  Rip.SeqAcct.numbered ts ms n h

/-- **obligation over the regenerated source**: every function of session.rs, rip-tools runtime.rs,
tasks/mod.rs and checkpoints.rs that numbers frames from a dereferenced counter follows that
discipline on every counter it touches (token lists re-extracted by ripx on every run); the helpers
known to do so are present (refused tool call, tool runtime emit, task emit, request stream). -/
theorem gen_seq_accounting :
    Rip.Gen.SeqAccounting.table.all (fun r => Rip.SeqAcct.fnWellFormed r.2) = true ∧
    7 ≤ Rip.Gen.SeqAccounting.table.length ∧
    [735412676739990525, 3566688996211562816, 16348414479796277976, 9139488890823917958].all
      (fun h => (Rip.Gen.SeqAccounting.table.map (·.1)).contains h) = true := by decide

/-- what the discipline excludes: the second frame of a pair numbered `counter + 1` with a single
`+= 1` behind the pair — the next frame of the stream then repeats a seq -/
example : Rip.SeqAcct.wellFormed [.use true, .use false, .bump 1] = false ∧
    (Rip.SeqAcct.run [.use true, .use false, .bump 1, .use true, .bump 1] [] ⟨7, []⟩).frames = [7, 8, 8] := by
  decide

end Rip.Props.C01
