/-
C07 — run lifecycle frames are complete, unique and causally ordered.
Model: Rip/Model/RunLife.lean (the frames a run writes as a function of everything the provider,
the tools and the input can do). Lemmas: Rip/Lemmas/RunLife.lean (the shape of a run's body, the
acceptor). Regenerated fragment: Rip/Gen/EffectOrder.lean (orders 40 `run_session`, 41 agent loop,
44 `thread_post_message`, and the early-exit counts), re-extracted from the current source on every run.
-/
import Rip.Lemmas.RunLife
import Rip.Gen.EffectOrder
namespace Rip.Props.C07
open Rip.RunLife

/-- **The thread's view of every attached run obeys the lifecycle grammar**, whatever the input kind,
the provider (any number of turns, any frames, any end reason, cursor or not), context compilation
(success or failure) and the tools (any number, mutating or not, barred or not, any output) do:
message, run_spawned, [selection decided, context compiled], side-effects*, [cursor], run_ended. -/
theorem thread_lifecycle (r : Run) (h : r.linked = true) : lifecycleOk (threadOf (trace r)) = true := by
  obtain ⟨sel, cur, mid, hm, hb⟩ := body_shape r
  refine (lifecycleOk_iff _).mpr ⟨sel, cur, (threadOf mid).length, ?_⟩
  rw [← allSide_eq_replicate hm.thread]
  simp [trace, h, hb, apply_ite threadOf]

/-- the acceptor decides exactly that regular language -/
theorem grammar_exact (l : List TK) : lifecycleOk l = true ↔ ∃ (sel cur : Bool) (n : Nat),
    l = [.message, .runSpawned] ++ (if sel then [.selDecided, .compiled] else []) ++ List.replicate n .sideFx ++
      (if cur then [.cursor] else []) ++ [.runEnded] := lifecycleOk_iff l

/-- exactly one message, one run_spawned and one run_ended per attached run -/
theorem one_of_each (r : Run) (h : r.linked = true) :
    (threadOf (trace r)).count .message = 1 ∧ (threadOf (trace r)).count .runSpawned = 1 ∧
    (threadOf (trace r)).count .runEnded = 1 := by
  obtain ⟨sel, cur, n, hb⟩ := (grammar_exact _).mp (thread_lifecycle r h)
  rw [hb]
  simp only [List.count_append, List.count_replicate]
  cases sel <;> cases cur <;> exact ⟨rfl, rfl, rfl⟩

/-- a session that is not attached to a thread writes nothing on any thread -/
theorem thread_unlinked (r : Run) (h : r.linked = false) : threadOf (trace r) = [] := by
  obtain ⟨sel, cur, mid, hm, hb⟩ := body_shape r
  rw [h] at hm
  simp [trace, h, hb, hm.thread_unlinked]

/-- **The session stream starts with its start frame and ends with exactly one end frame.** -/
theorem session_shape (r : Run) : ∃ mid, Mid mid ∧ sessionOf (trace r) = .started :: mid ++ [.ended] := by
  obtain ⟨sel, cur, mid, hm, hb⟩ := body_shape r
  exact ⟨sessionOf mid, hm.session, by simp [trace, hb, apply_ite sessionOf]⟩

theorem session_one_of_each (r : Run) :
    (sessionOf (trace r)).count .started = 1 ∧ (sessionOf (trace r)).count .ended = 1 := by
  obtain ⟨mid, hm, hb⟩ := session_shape r
  have h1 : mid.count .started = 0 := List.count_eq_zero.mpr fun hmem => (hm _ hmem).1 rfl
  have h2 : mid.count .ended = 0 := List.count_eq_zero.mpr fun hmem => (hm _ hmem).2 rfl
  rw [hb]
  simp [List.count_append, h1, h2]

/-- **run_ended is the last frame of the run and directly follows its own terminal session frame.** -/
theorem run_ended_last (r : Run) (h : r.linked = true) :
    ∃ pre, trace r = pre ++ [.session .ended, .thread .runEnded] := by
  obtain ⟨sel, cur, mid, -, hb⟩ := body_shape r
  generalize _ ++ mid ++ _ = front at hb
  exact ⟨[.thread .message, .thread .runSpawned, .session .started] ++ front, by simp [trace, h, hb]⟩

/-- parallel runs on one thread: whatever the interleaving of their frames in the log, each run's
own frames obey the lifecycle -/
theorem parallel_runs (runs : List Run) (l : List (Nat × Fr))
    (hl : ∀ i r, runs[i]? = some r → projRun i l = trace r) (i : Nat) (r : Run) (hr : runs[i]? = some r)
    (hk : r.linked = true) : lifecycleOk (threadOf (projRun i l)) = true := by
  rw [hl i r hr]
  exact thread_lifecycle r hk

/-- non-vacuity: a two-turn provider run with mutating tools, a barred tool and a cursor -/
example : threadOf (trace exPrompt) =
    [.message, .runSpawned, .selDecided, .compiled, .sideFx, .sideFx, .cursor, .runEnded] := by decide

/-! ### obligations over the regenerated source tables -/

open Rip.Gen

/-- the lifecycle steps of a function body, in source order -/
def lifecycleSteps (l : List Eff) : List Eff :=
  l.filter (fun e => e == .selDecided || e == .compiled || e == .agentLoop || e == .cursorUpdated ||
                     e == .writeSnapshot || e == .runEnded)

/-- index of the last frame emission (publish) of a body -/
def lastPublish (l : List Eff) : Nat := l.length - 1 - (l.reverse.findIdx (· == .publish))

/-- `run_session`: selection, compilation, the provider loop, the cursor update, the snapshot and
run_ended occur once each, in this order; run_ended comes after every frame emission of the body;
and the body has no early exit (no `return`, no `?`), so the single exit path is always reached -/
theorem gen_run_session_single_exit :
    lifecycleSteps (orderOf 40) = [.selDecided, .compiled, .agentLoop, .cursorUpdated, .writeSnapshot, .runEnded] ∧
    lastPublish (orderOf 40) < (orderOf 40).findIdx (· == .runEnded) ∧
    earlyExitsOf 40 = 0 := by decide

/-- `thread_post_message`: append the message, append run_spawned, then spawn the session — each once -/
theorem gen_post_message_order :
    (orderOf 44).filter (fun e => e == .appendMessage || e == .runSpawned || e == .spawnSession) =
      [.appendMessage, .runSpawned, .spawnSession] := by decide

/-- side-effects frames are appended right after the tool's frames, while the workspace permit is
still held (tool envelopes in `run_session`, tool calls in the agent loop) -/
theorem gen_side_effects_follow_tool_frames :
    [.lock 6, .runTool, .emitBatch, .sideEffects, .unlock 6] <:+: orderOf 40 ∧
    [.lock 6, .runTool, .emitBatch, .sideEffects, .unlock 6] <:+: orderOf 41 := by decide

end Rip.Props.C07
