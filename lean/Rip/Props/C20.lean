/-
C20 — surfaces are total, bounded, deterministic folds over the frame stream.
Property theorems only; helper lemmas live in Rip/Lemmas/Frames.lean.
The model functions are total Lean functions (totality of the fold), the real
code's only partial operations on this path are the two string slices, covered
by `slice_on_boundary`.
-/
import Rip.Lemmas.Frames
namespace Rip.Props.C20
open Rip.Proto Rip.Frames

/-- Frame memory: after any frame sequence the store holds at most `max(max_frames,1)` frames. -/
theorem len_bounded (maxFrames maxOut maxPrev : Nat) (fs : List Frame) :
    ((Tui.new maxFrames maxOut maxPrev).run fs).frames.frames.length ≤ max maxFrames 1 :=
  ((Tui.bounded_new maxFrames maxOut maxPrev).run fs).frames_le

/-- Output buffer: never longer than `max(max_output_bytes,1)` bytes. -/
theorem output_bounded (maxFrames maxOut maxPrev : Nat) (fs : List Frame) :
    ((Tui.new maxFrames maxOut maxPrev).run fs).output.length ≤ max maxOut 1 :=
  ((Tui.bounded_new maxFrames maxOut maxPrev).run fs).out_le

/-- Every tool and task preview stays within the preview limit. -/
theorem preview_bounded (maxFrames maxOut maxPrev : Nat) (fs : List Frame) :
    let t := (Tui.new maxFrames maxOut maxPrev).run fs
    (∀ x ∈ t.tools, x.out.length ≤ maxPrev ∧ x.err.length ≤ maxPrev) ∧
    (∀ x ∈ t.tasks, x.out.length ≤ maxPrev ∧ x.err.length ≤ maxPrev ∧ x.pty.length ≤ maxPrev) :=
  have h := (Tui.bounded_new maxFrames maxOut maxPrev).run fs
  ⟨h.tools_le, h.tasks_le⟩

/-- The truncation cut lands on a character boundary (or at the end): the slice
`&s[start..]` in `push_output` / `push_preview` cannot panic. -/
theorem slice_on_boundary (s : Bytes) (keep : Nat) :
    let start := advance s (s.length - keep) s.length
    s.length ≤ start ∨ isBoundary s start = true :=
  advance_post s (s.length - keep) s.length (Nat.le_add_left ..)

/-- Lookup by seq returns a stored frame that carries exactly that seq, or nothing —
for every store state whatsoever (no reachability assumption needed). -/
theorem lookup_exact (s : FrameStore) (q : Nat) (f : Frame) (h : s.getBySeq q = some f) :
    f.seq = q ∧ f ∈ s.frames := by
  -- `indexOfSeq` answers `some i` only after it has seen `frames[i]? = some g` with `g.seq = q`
  unfold FrameStore.getBySeq at h
  revert h
  fun_cases FrameStore.indexOfSeq s q with
  | case2 i _ g hg hs =>
    intro h
    obtain rfl : g = f := Option.some.inj (hg.symm.trans h)
    exact ⟨hs, List.mem_of_getElem? hg⟩
  | _ => nofun

/-- Same, phrased over everything the TUI can reach. -/
theorem lookup_exact_reachable (a b c : Nat) (fs : List Frame) (q : Nat) (f : Frame)
    (h : ((Tui.new a b c).run fs).frames.getBySeq q = some f) : f.seq = q :=
  (lookup_exact _ q f h).1

/-- Consecutive stores: position `i` holds seq `base + i`. -/
def Consec (s : FrameStore) : Prop := ∀ i (f : Frame), s.frames[i]? = some f → f.seq = s.base + i

/-- On a store with consecutive seqs (the normal single-stream case) the lookup is also complete. -/
theorem lookup_complete (s : FrameStore) (hc : Consec s) (f : Frame) (hf : f ∈ s.frames) :
    ∃ g, s.getBySeq f.seq = some g ∧ g.seq = f.seq := by
  obtain ⟨i, hi⟩ := List.getElem?_of_mem hf
  have hs : f.seq = s.base + i := hc i f hi
  refine ⟨f, ?_, rfl⟩
  -- the range tests of `index_of_seq` pass, the position is `i`, and the frame there has the seq asked for
  simp only [FrameStore.getBySeq, FrameStore.indexOfSeq, hs,
    indexOfSeqRaw_base_add s (List.getElem?_eq_some_iff.mp hi).1, hi, ↓reduceIte]

/-- `Consec` is preserved by pushing the next seq (below the u64 saturation point). -/
theorem consec_push (s : FrameStore) (hc : Consec s) (f : Frame) (hcap : 1 ≤ s.cap)
    (hnext : s.frames ≠ [] → f.seq = s.base + s.frames.length) (hmax : f.seq < u64Max) :
    Consec (s.push f) := by
  unfold FrameStore.push
  extract_lets base
  -- an empty store is consecutive from any base, so also from the seq of its first frame
  have ⟨hb, hn⟩ : ConsecFrom base s.frames ∧ f.seq = base + s.frames.length := by
    unfold base
    by_cases he : s.frames = []
    · rw [he]
      exact ⟨ConsecFrom.nil _, rfl⟩
    · rw [if_neg (mt List.isEmpty_iff.mp he)]
      exact ⟨hc, hnext he⟩
  split
  next hfull =>
    -- full: the oldest frame goes, the base moves up by one (no saturation: `base ≤ f.seq < u64Max`)
    have hsat : satSucc base = base + 1 := if_pos (Nat.lt_of_le_of_lt (hn ▸ Nat.le_add_right ..) hmax)
    rw [hsat]
    refine hb.tail.concat ?_
    rw [List.length_tail, Nat.add_assoc, Nat.add_sub_cancel' (Nat.le_trans hcap hfull)]
    exact hn
  next => exact hb.concat hn

/-- Determinism: the state is a function of the frame sequence and the capacities alone. -/
theorem deterministic (a b c : Nat) (fs gs : List Frame) (h : fs = gs) :
    (Tui.new a b c).run fs = (Tui.new a b c).run gs := congrArg _ h

/-- The fold is compositional: feeding `fs ++ gs` equals feeding `fs` then `gs`
(no hidden state beyond `Tui`). -/
theorem run_append (t : Tui) (fs gs : List Frame) : t.run (fs ++ gs) = (t.run fs).run gs :=
  List.foldl_append

/-! ### the defect repaired by the `fix:` commit, kept as a checked witness -/

def mk (seq tag : Nat) : Frame := { seq := seq, ts := 0, session := [], tag := tag, kind := .other }

/-- Position-only lookup (the code before the repair) returns a different frame on
non-consecutive seqs: push 10, 20; look up 11. -/
theorem raw_lookup_not_exact :
    ∃ f, (((FrameStore.new 10).push (mk 10 0)).push (mk 20 1)).getBySeqRaw 11 = some f ∧ f.seq ≠ 11 :=
  ⟨mk 20 1, by decide⟩

/-! ### non-vacuity -/

example : Consec (((FrameStore.new 2).push (mk 10 0)).push (mk 11 1)) :=
  consec_push _
    (consec_push (FrameStore.new 2) (ConsecFrom.nil 0) (mk 10 0) (by decide) (fun h => absurd rfl h)
      (by decide))
    (mk 11 1) (by decide) (fun _ => rfl) (by decide)

example : (((FrameStore.new 2).push (mk 10 0)).push (mk 11 1)).getBySeq 11 = some (mk 11 1) := by decide

end Rip.Props.C20
