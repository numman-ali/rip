/-
C13 — no path argument can reach outside the workspace root.
Property theorems only. Model: Rip/Model/Paths.lean (lexical checks + the kernel's path walk).
-/
import Rip.Lemmas.Paths
namespace Rip.Props.C13
open Rip.Proto Rip.Patch Rip.Paths

/-- **Every accepted path argument stays below the root**, for all byte strings: if the lexical
check of the file tools / patch format / task cwd accepts `raw`, then the location the kernel
reaches when it walks `raw` starting at the root has the root as a prefix. -/
theorem resolver_confined (root : Path) (raw rel : Bytes) (h : resolve raw = .ok rel) :
    root <+: osWalk root rel := by
  obtain ⟨ha, hp, rfl⟩ := resolve_ok h
  exact osWalk_confined root _ ha hp

/-- Absolute strings and strings with a `..` component are refused by the file-tool resolver. -/
theorem resolver_refuses (raw : Bytes)
    (h : isAbsolute raw = true ∨ [46, 46] ∈ splitSlash raw) : ∃ e, resolve raw = .error e := by
  cases hr : resolve raw with
  | error e => exact ⟨e, rfl⟩
  | ok rel =>
    obtain ⟨ha, hp, _⟩ := resolve_ok hr
    rcases h with h | h
    · rw [ha] at h
      cases h
    · exact absurd rfl (no_dotdot_segment raw hp _ h)

/-- The patch format's path parser is at least as strict (it trims, then applies the same check). -/
theorem patch_path_confined (root : Path) (raw : Bytes) (p : RPath) (h : parseRelPath raw = .ok p) :
    root <+: osWalk root (Rip.Text.trim raw) :=
  osWalk_confined root _ (parseRelPath_ok h).1 (parseRelPath_ok h).2.1

/-- Checkpoint paths (after the repair): an accepted path has no parent-directory component left
after the root was stripped. -/
theorem ckpt_rel_no_parent (rootRaw raw : Bytes) (rel : List Component)
    (h : toRelative rootRaw raw = .ok rel) : rel.all (· != .parentDir) = true :=
  all_bne_of_any_beq_false (toRelative_ok h)

/-! ### non-vacuity and the escapes the check must stop -/

def okOf : Except Refusal Bytes → Option Bytes | .ok b => some b | .error _ => none
def errOf : Except Refusal Bytes → Option Refusal | .ok _ => none | .error e => some e

example : okOf (resolve [97, 47, 46, 47, 98, 47, 47, 99]) = some [97, 47, 46, 47, 98, 47, 47, 99] := by decide  -- "a/./b//c"
example : osWalk [[114]] [97, 47, 46, 46, 47, 46, 46, 47, 120] = [[120]] := by decide   -- "a/../../x" leaves root "r"
example : errOf (resolve [97, 47, 46, 46, 47, 46, 46, 47, 120]) = some .parent := by decide
example : errOf (resolve [47, 101, 116, 99]) = some .absolute := by decide                -- "/etc"

end Rip.Props.C13
