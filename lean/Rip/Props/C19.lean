/-
C19 — secrets never reach frames, artifacts, caches, logs or diagnostics. Property theorems only.
Model: Rip/Model/Secrets.lean (layered configuration, resolution, diagnostics, recordings, the wire).
Proofs: Rip/Lemmas/Secrets.lean. Regenerated fragments: Rip/Gen/SecretReaders.lean (every function
outside test modules that reads `.api_key` / `.headers`).
-/
import Rip.Lemmas.Secrets
import Rip.Gen.SecretReaders
namespace Rip.Props.C19
open Rip.Secrets

/-- **Diagnostics are blind to secret values**: for every stack of configuration layers, every
environment and every per-request override, renaming all secret values (inline keys, environment
values, header values) by ANY function that keeps blank values blank leaves the doctor summary
unchanged — it depends only on whether a secret is present and where it came from. -/
theorem doctor_blind (f : Secret → Secret) (hf : KeepsBlank f) (layers : List Layer) (env : Env) (ov : Override) :
    (resolve (mergeAll (layers.map (Layer.mapS f))) (env.mapS f) ov).map doctor =
    (resolve (mergeAll layers) env ov).map doctor :=
  observed_mapS f hf (doctor_mapS f hf) layers env ov

/-- **what a run records about its provider is blind to secret values** -/
theorem recorded_blind (f : Secret → Secret) (hf : KeepsBlank f) (layers : List Layer) (env : Env) (ov : Override) :
    (resolve (mergeAll (layers.map (Layer.mapS f))) (env.mapS f) ov).map recorded =
    (resolve (mergeAll layers) env ov).map recorded :=
  observed_mapS f hf (recorded_mapS f) layers env ov

/-- two-run form: configurations that differ only in their secret values are indistinguishable -/
theorem two_run (f g : Secret → Secret) (hf : KeepsBlank f) (hg : KeepsBlank g) (layers : List Layer)
    (env : Env) (ov : Override) :
    (resolve (mergeAll (layers.map (Layer.mapS f))) (env.mapS f) ov).map (fun r => (doctor r, recorded r)) =
    (resolve (mergeAll (layers.map (Layer.mapS g))) (env.mapS g) ov).map (fun r => (doctor r, recorded r)) :=
  have blind (e : Secret → Secret) (he : KeepsBlank e) :=
    observed_mapS (obs := fun r => (doctor r, recorded r)) e he
      (fun r => congrArg (·, recorded r) (doctor_mapS e he r)) layers env ov
  (blind f hf).trans (blind g hg).symm

/-- the secrets ARE used — on the wire, and exactly there (so the theorems above are not vacuous) -/
theorem wire_carries_the_secrets (f : Secret → Secret) (hf : KeepsBlank f) (layers : List Layer) (env : Env) (ov : Override) :
    (resolve (mergeAll (layers.map (Layer.mapS f))) (env.mapS f) ov).map wire =
    (resolve (mergeAll layers) env ov).map
      (fun r => ((wire r).1.map f, (wire r).2.map (fun h => (h.1, f h.2)))) :=
  observed_mapS f hf (wire_mapS f) layers env ov

/-- diagnostics say "present" exactly when a key goes on the wire; a resolved key is never blank -/
theorem present_iff_wired (cfg : Layer) (env : Env) (ov : Override) (r : Resolved)
    (h : resolve cfg env ov = some r) :
    ((doctor r).hasApiKey = true ↔ (wire r).1.isSome = true) ∧ r.apiKey ≠ some 0 :=
  ⟨present_iff_some_key cfg env ov r h, key_never_blank cfg env ov r h⟩

/-- the blank-preservation hypothesis cannot be dropped (diagnostics do report presence) -/
example : ∃ (layers : List Layer) (env : Env) (ov : Override),
    (resolve (mergeAll (layers.map (Layer.mapS (fun _ => 0)))) (env.mapS (fun _ => 0)) ov).map doctor ≠
    (resolve (mergeAll layers) env ov).map doctor :=
  ⟨[{ providers := [(1, { endpoint := some ⟨10, false, false⟩, apiKey := some (.inline 7) })], primary := some (1, 5) }],
   {}, {}, by decide⟩

/-! ### obligations over the regenerated source tables -/

/-- the only functions that read a secret-bearing field are: the resolver, the doctor handler
(presence and header names), the per-request override plumbing of thread_post_message (moves the
resolved configuration into the run's configuration) and the function that attaches them to the
outgoing HTTP request. A new reader anywhere in these modules breaks this obligation. -/
theorem gen_secret_readers_known :
    Rip.Gen.SecretReaders.readers.all (fun r =>
      [16173268633043798843,    -- config_doctor
       17592789489502923263,    -- resolve_openresponses_config
       11852998158737580036,    -- stream_openresponses_request
       1817750847305215184      -- thread_post_message
      ].contains r.1) = true := by decide

end Rip.Props.C19
