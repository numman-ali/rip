/-
C14 — rewind restores exactly the checkpointed files from any later state.
Property theorems only. Model: Rip/Model/Checkpoint.lean over the file system of Rip/Model/Patch.lean.
Proofs: Rip/Lemmas/Checkpoint.lean; `auto_covers_patch` is about the patch specification and is
proved in Rip/Lemmas/PatchExact.lean.
-/
import Rip.Lemmas.Checkpoint
import Rip.Lemmas.PatchExact
namespace Rip.Props.C14
open Rip.Proto Rip.Patch Rip.Paths Rip.Checkpoint

/-- A checkpoint records, for every covered path, exactly the content at checkpoint time
(bytes, or absent). -/
theorem create_records (rootRaw : Bytes) (fs0 : FS) (raws : List Bytes) (ck : Ckpt)
    (h : create rootRaw fs0 raws = .ok ck) :
    ∀ e ∈ ck, e.content = fs0.file e.path ∧ e.mustDir = false :=
  fun e he => ⟨(create_rec h e he).2.1, (create_rec h e he).1⟩

/-- **Rewind is exact from ANY later state**: whatever happened to the workspace in between
(`fs1` is arbitrary), after a successful rewind every covered path has the bytes it had when the
checkpoint was taken, and every covered path that did not exist then is absent. -/
theorem rewind_exact (rootRaw : Bytes) (fs0 fs1 fs' : FS) (raws : List Bytes) (ck : Ckpt)
    (hc : create rootRaw fs0 raws = .ok ck) (hr : rewind fs1 ck = (true, fs')) :
    ∀ e ∈ ck, fs'.file e.path = fs0.file e.path :=
  Rip.Checkpoint.rewind_exact rootRaw fs0 fs1 fs' raws ck hc hr

/-- Rewind never touches a path the checkpoint does not cover. -/
theorem rewind_only_covered (fs1 fs' : FS) (ck : Ckpt) (ok : Bool) (hr : rewind fs1 ck = (ok, fs')) :
    ∀ q, (∀ e ∈ ck, e.path ≠ q) → fs'.file q = fs1.file q :=
  Rip.Checkpoint.rewind_only_covered fs1 fs' ck ok hr

/-- **A rewind that fails leaves the workspace as it was** (every file, covered or not). -/
theorem rewind_fail_noop (rootRaw : Bytes) (fs0 fs1 fs' : FS) (raws : List Bytes) (ck : Ckpt)
    (hwf0 : WF fs0) (hwf1 : WF fs1)
    (hc : create rootRaw fs0 raws = .ok ck) (hr : rewind fs1 ck = (false, fs')) :
    ∀ q, fs'.file q = fs1.file q :=
  Rip.Checkpoint.rewind_fail_noop rootRaw fs0 fs1 fs' raws ck hwf0 hwf1 hc hr

/-- **The automatic checkpoint of a patch covers every file the patch can change**: a successful
patch changes no file other than the ones it names, and the named paths are what
`files_for_invocation` hands to the checkpoint. Together with `rewind_exact` an edit can always be
undone. -/
theorem auto_covers_patch (fs fs' : FS) (ops : List Op) (h : specRun fs ops = some fs') :
    ∀ q, q ∉ (ops.map namedComps).flatten → fs'.file q = fs.file q :=
  Rip.Patch.spec_changes_only_named fs fs' ops h

/-! ### non-vacuity -/

def ws0 : FS := { file := fun q => if q = [[97]] then some [49] else none, dir := fun q => q = [] }
def ws1 : FS := { file := fun q => if q = [[97]] then some [50] else if q = [[98]] then some [51] else none,
                  dir := fun q => q = [] }
def ckA : Ckpt := [{ path := [[97]], mustDir := false, content := some [49] },
                   { path := [[98]], mustDir := false, content := none }]

/-- checkpoint {a ↦ "1", b absent}; later a ↦ "2", b ↦ "3"; rewind restores both -/
example : (rewind ws1 ckA).1 = true ∧ (rewind ws1 ckA).2.file [[97]] = some [49] ∧
    (rewind ws1 ckA).2.file [[98]] = none := by decide

end Rip.Props.C14
