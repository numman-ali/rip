/-
C10 — branch and handoff record correct lineage and never touch the parent.
Property theorems only. Model: Rip/Model/Lineage.lean. Proofs: Rip/Lemmas/Lineage.lean.
-/
import Rip.Lemmas.Lineage
namespace Rip.Props.C10
open Rip.Lineage

/-- the recorded cut lies within the source thread as it was -/
theorem cut_in_range (T : List F) (hw : WellNumbered T) (sel : Sel) (q : Nat) (m : Option Nat)
    (h : resolveCut T sel = .ok (q, m)) : q ≤ headSeq T := Rip.Lineage.cut_in_range T hw sel q m h

/-- `from_seq`: the cut is the requested seq and names the LAST message at or before it -/
theorem cut_names_last_message (T : List F) (hw : WellNumbered T) (q' q i : Nat)
    (h : resolveCut T (.fromSeq q') = .ok (q, some i)) :
    ∃ f ∈ T, f.id = i ∧ isMessage f = true ∧ f.seq ≤ q ∧ ∀ g ∈ T, isMessage g = true → g.seq ≤ q → g.seq ≤ f.seq :=
  cut_from_seq_last T hw.increasing q' q i h

theorem cut_from_seq_exact (T : List F) (q' q : Nat) (m : Option Nat)
    (h : resolveCut T (.fromSeq q') = .ok (q, m)) :
    q = q' ∧ q' ≤ headSeq T ∧
    (∀ i, m = some i → ∃ f ∈ T, f.id = i ∧ isMessage f = true ∧ f.seq ≤ q) ∧
    (m = none → ∀ g ∈ T, isMessage g = true → ¬ g.seq ≤ q) := cut_from_seq T q' q m h

/-- no selector: the head, naming the last message of the thread -/
theorem cut_default_is_head (T : List F) (q : Nat) (m : Option Nat) (h : resolveCut T .none = .ok (q, m)) :
    q = headSeq T ∧ m = lastMessage T (fun _ => true) := cut_none T q m h

/-- `from_message_id`: the requested message together with the end of the run that answered it -/
theorem cut_by_message (T : List F) (hw : WellNumbered T) (mId q : Nat) (m : Option Nat)
    (h : resolveCut T (.fromMsg mId) = .ok (q, m)) :
    m = some mId ∧
    ∃ fm ∈ T, fm.id = mId ∧ isMessage fm = true ∧ fm.seq ≤ q ∧
      (∀ g ∈ T, related mId g = true → fm.seq ≤ g.seq → g.seq ≤ q) ∧
      (q = fm.seq ∨ ∃ g ∈ T, related mId g = true ∧ g.seq = q) := by
  obtain ⟨hm, fm, h1, h2, h3, h4, _, h6, h7⟩ := cut_from_msg_covers_last T hw.increasing mId q m h
  exact ⟨hm, fm, h1, h2, h3, h4, fun g hg hr _ => h6 g hg hr, h7⟩

/-- selector errors: both given; out of range; unknown id or id of a non-message frame; unknown thread -/
theorem selector_errors (T : List F) (hne : T ≠ []) :
    (∀ q m, resolveCut T (.both q m) = .error .conflicting) ∧
    (∀ q, headSeq T < q → resolveCut T (.fromSeq q) = .error .outOfRange) ∧
    (∀ mId, (∀ f ∈ T, isMessage f = true → f.id ≠ mId) → resolveCut T (.fromMsg mId) = .error .notFound) :=
  ⟨sel_both_rejected T, sel_seq_out_of_range T hne, sel_unknown_message T hne⟩

theorem unknown_thread_rejected (sel : Sel) (h : ∀ q m, sel ≠ .both q m) :
    resolveCut [] sel = .error .noSuchThread := sel_unknown_thread sel h

/-- branch: no frame is added to the source thread (or any other existing thread); exactly two
frames are appended; the new thread is [creation@0, lineage@1] with the resolved cut -/
theorem branch_lineage (log log' : Log) (parent child idC idB : Nat) (sel : Sel) (q : Nat) (m : Option Nat)
    (hfresh : streamOf log child = [])
    (h : branch log parent child idC idB sel = .ok (log', q, m)) :
    (∀ t, t ≠ child → streamOf log' t = streamOf log t) ∧
    (∃ fs, log' = log ++ fs ∧ fs.length = 2) ∧
    streamOf log' child = [{ stream := child, id := idC, seq := 0, kind := .created },
                           { stream := child, id := idB, seq := 1, kind := .branched parent q m }] ∧
    resolveCut (streamOf log parent) sel = .ok (q, m) := by
  obtain ⟨hr, rfl⟩ := branch_ok log log' parent child idC idB sel q m h
  exact ⟨fun t ht => streamOf_append_child_ne log child t _ _ rfl rfl ht, ⟨_, rfl, rfl⟩,
    by rw [streamOf_append_child log child _ _ rfl rfl, hfresh]; rfl, hr⟩

/-- handoff: the same, and the lineage record always carries a resolvable summary -/
theorem handoff_lineage (log log' : Log) (ex : Nat → Bool) (src child idC idH fresh : Nat) (sel : Sel)
    (md : Bool) (art : Option Nat) (q : Nat) (m a : Option Nat)
    (hfresh : streamOf log child = [])
    (h : handoff log ex src child idC idH fresh sel md art = .ok (log', q, m, a)) :
    (∀ t, t ≠ child → streamOf log' t = streamOf log t) ∧
    (∃ fs, log' = log ++ fs ∧ fs.length = 2) ∧
    streamOf log' child = [{ stream := child, id := idC, seq := 0, kind := .created },
                           { stream := child, id := idH, seq := 1, kind := .handoff src q m a md }] ∧
    (∃ x, a = some x ∧ (art = some x → ex x = true) ∧ (art = none → x = fresh ∧ md = true)) := by
  obtain ⟨_, rfl, hsum⟩ := handoff_ok log log' ex src child idC idH fresh sel md art q m a h
  exact ⟨fun t ht => streamOf_append_child_ne log child t _ _ rfl rfl ht, ⟨_, rfl, rfl⟩,
    by rw [streamOf_append_child log child _ _ rfl rfl, hfresh]; rfl, hsum⟩

theorem handoff_needs_a_summary (log : Log) (ex : Nat → Bool) (src child idC idH fresh : Nat) (sel : Sel) :
    handoff log ex src child idC idH fresh sel false none = .error .noSummary :=
  handoff_requires_summary log ex src child idC idH fresh sel

end Rip.Props.C10
