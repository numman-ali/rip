/-
C17 — captured process output is faithful; a task has one well-formed lifecycle.
Property theorems only. Models: Rip/Model/Capture.lean (bytes), Rip/Model/TaskLTS.lean (lifecycle).
Proofs: Rip/Lemmas/Capture.lean, Rip/Lemmas/TaskLTS.lean.
-/
import Rip.Lemmas.Capture
import Rip.Lemmas.TaskLTS
namespace Rip.Props.C17
open Rip.Proto Rip.Capture Rip.TaskLTS

/-! ### (a) bytes -/

/-- The stored task log is byte-for-byte the prefix of what the process wrote, up to the cap —
for every chunking and every cap (0 included). -/
theorem stored_is_prefix (cap : Nat) (cs : List Bytes) :
    ((LogW.init cap).feed cs).1.stored = cs.flatten.take cap := (logw_init_feed cap cs).1

theorem log_total_and_truncation (cap : Nat) (cs : List Bytes) :
    ((LogW.init cap).feed cs).1.total = cs.flatten.length ∧
    (((LogW.init cap).feed cs).1.truncated = true ↔ cap < cs.flatten.length) :=
  (logw_init_feed cap cs).2

/-- The ranges named by the output frames are consecutive, non-overlapping and tile the stored bytes. -/
theorem ranges_contiguous (cap : Nat) (cs : List Bytes) :
    RangesFrom 0 ((LogW.init cap).feed cs).2 ((LogW.init cap).feed cs).1.stored.length :=
  feed_ranges_tile (LogW.init cap) cs

/-- Each range names exactly the stored part of its chunk, and that part is as long as the cap allows. -/
theorem range_names_chunk (cap : Nat) (cs : List Bytes) (i : Nat) (h : i < cs.length) :
    (∃ r, ((LogW.init cap).feed cs).2[i]? = some r ∧
      (((LogW.init cap).feed cs).1.stored.drop r.offset).take r.bytes = (cs[i]).take r.bytes) ∧
    (∃ r, ((LogW.init cap).feed cs).2[i]? = some r ∧ r.bytes = min (cap - r.offset) (cs[i]).length) := by
  obtain ⟨r, hr, hs, hb⟩ := feed_range (LogW.init cap) cs i h
  exact ⟨⟨r, hr, hs⟩, r, hr, hb⟩

/-- Foreground shell tool: the inline preview buffer is the prefix of the output within its limit,
and the spill artifact — present whenever the output exceeded the preview limit and the cap is
positive — is the prefix of the output up to the artifact cap; both for every chunking. -/
theorem shell_preview_is_prefix (maxPrev artMax : Nat) (cs : List Bytes) :
    (Cap.run maxPrev artMax cs).preview = cs.flatten.take maxPrev :=
  (capInv_run maxPrev artMax cs).preview

theorem shell_artifact_is_prefix (maxPrev artMax : Nat) (cs : List Bytes) (s : Bytes) (t : Bool)
    (h : ((Cap.run maxPrev artMax cs).finish maxPrev).artifact = some (s, t)) :
    s = cs.flatten.take artMax ∧ (t = true ↔ s.length < cs.flatten.length) :=
  (capInv_run maxPrev artMax cs).finish_artifact h

theorem shell_artifact_exists (maxPrev artMax : Nat) (cs : List Bytes)
    (hgt : maxPrev < cs.flatten.length) (hpos : 0 < artMax) :
    ((Cap.run maxPrev artMax cs).file).isSome = true :=
  (capInv_run maxPrev artMax cs).file_isSome hgt hpos

/-- Reading stored output page by page, advancing by the byte count each page reports, reproduces
the stored bytes exactly — for every page size > 0. -/
theorem pages_reassemble_bytes (file : Bytes) (max : Nat) (h : 0 < max) :
    (walk file max (file.length + 1) 0).flatten = file :=
  walk_flatten file max h (file.length + 1) 0 (Nat.lt_succ_of_le (Nat.sub_le ..))

/-! ### (b) lifecycle -/

/-- Under every schedule of the main task, both output pumps and the client (cancellation at any
moment), the recorded stream is a well-formed prefix of `spawned (failed | running delta*
((exited|failed) | cancelRequested delta* cancelled (cancelled|failed)))`. -/
theorem lifecycle_wellformed_prefix (c : Cfg) (sched : List Actor) : prefixOK (run c sched).trace = true :=
  lifecycle_prefix c sched

/-- …and a complete lifecycle once the task has finished: spawn frame first, running at most once,
exactly one terminal status, cancellation request recorded before the cancelled status. -/
theorem lifecycle_wellformed (c : Cfg) (sched : List Actor) (h : (run c sched).pc = 9) :
    lifecycleOK (run c sched).trace = true := lifecycle_complete c sched h

theorem nothing_follows_terminal (c : Cfg) (sched more : List Actor) (h : (run c sched).pc = 9) :
    (run c (sched ++ more)).trace = (run c sched).trace := nothing_after_terminal c sched more h

theorem output_precedes_terminal (c : Cfg) (sched : List Actor) (h : (run c sched).pc = 9) :
    let s := run c sched
    s.started = true → s.outDone = true ∧ s.errDone = true ∧ s.outLeft = 0 ∧ s.errLeft = 0 :=
  pumps_joined c sched h

theorem task_can_finish (c : Cfg) : ∃ sched, (run c sched).pc = 9 := can_complete c

/-! ### non-vacuity -/
example : ((LogW.init 5).feed [[1, 2, 3], [4, 5, 6], [7]]).1.stored = [1, 2, 3, 4, 5] := by decide
example : (((LogW.init 5).feed [[1, 2, 3], [4, 5, 6], [7]]).2.map (fun r => (r.offset, r.bytes))) = [(0, 3), (3, 2), (5, 0)] := by decide

end Rip.Props.C17
