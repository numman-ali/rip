/-
C06 — a stream subscriber sees every frame exactly once, in order.
Property theorems only. Models: Rip/Model/Join.lean (one producer, one subscriber), Emitters.lean
(several emitters on one stream), Rebuild.lean (a reader rebuilds the sidecar). Proofs:
Rip/Lemmas/Join.lean, Emitters.lean, Rebuild.lean.
Regenerated fragment: Rip/Gen/EffectOrder.lean (the effect order of the emitters and of the SSE
handlers, extracted from the current source by ripx on every run).
-/
import Rip.Lemmas.Join
import Rip.Lemmas.Emitters
import Rip.Cex.C06Emitters
import Rip.Cex.C06
import Rip.Driver.C06
import Rip.Gen.Consts
import Rip.Gen.CallGraph
import Rip.Lemmas.Rebuild
namespace Rip.Props.C06
open Rip.Join Rip.Driver.C06

/-- **Join exactness.** For each join-safe emit order, every number of frames and EVERY
interleaving of the producer's publish/record steps with the subscriber's subscribe/snapshot steps
(every attach moment: before the stream, between any two effects of any emission, after the end):
the subscriber delivers 0,1,…,n-1 — each frame exactly once, in order. -/
theorem join_exact (prog : List Micro) (hp : prog ∈ safeShapes) (n : Nat) (sched : List Who)
    (hc : complete n (run prog n sched) = true) :
    output (run prog n sched) = List.range n := Rip.Join.join_exact prog hp n sched hc

/-- many concurrent subscribers: the producer's behaviour does not depend on any subscriber -/
theorem subscribers_independent (prog : List Micro) (n : Nat) (sched : List Who) :
    let a := run prog n sched
    let b := run prog n (sched.filter (· == .producer))
    a.frame = b.frame ∧ a.pos = b.pos ∧ a.held = b.held ∧ a.published = b.published ∧ a.recorded = b.recorded :=
  Rip.Join.producer_independent prog n sched

/-- the snapshot is never blocked forever: any schedule prefix extends to a completed delivery -/
theorem subscriber_terminates (prog : List Micro) (hp : prog ∈ safeShapes) (n : Nat) (sched : List Who) :
    complete n (run prog n
      (sched ++ (List.replicate (n * prog.length) Who.producer ++ [.subscriber, .subscriber]))) = true :=
  Rip.Join.can_complete_from prog hp n sched

/-! ### obligations over the regenerated effect orders (re-stated on every run from the source) -/

/-- the session emitter (`emit_event`) publishes and records in a join-safe order -/
theorem gen_session_emit_safe : safeShapes.contains (shapeOf false (Rip.Gen.orderOf 1)) = true := by decide

/-- the task emitter (`TaskEmitter::emit`) likewise -/
theorem gen_task_emit_safe : safeShapes.contains (shapeOf false (Rip.Gen.orderOf 3)) = true := by decide

/-- every continuity append writes the log before it publishes (history of a thread stream is
replayed from the log) -/
theorem gen_continuity_appends_safe :
    [10, 11, 12, 13, 14, 15, 16, 17, 18, 19, 20].all
      (fun id => shapeOf true (Rip.Gen.orderOf id) == recThenPub) = true := by decide

/-- all three SSE handlers subscribe before they take the snapshot -/
theorem gen_handlers_subscribe_first :
    [4, 5, 6].all (fun id =>
      (Rip.Gen.orderOf id).filter (fun e => e == .subscribe || e == .snapshot) == [.subscribe, .snapshot]) = true := by
  decide

/-! ### what the theorem does not cover, stated -/

/-- The model's channel is unbounded; the real broadcast channels are bounded (a subscriber that
lags further than the capacity loses frames — known finding `C06|lag>capacity`). The only thing
claimed about the generated constants is that the channels can hold something at all. -/
theorem channel_capacity_positive :
    0 < Rip.Gen.Consts.runner_EVENT_CHANNEL_CAPACITY ∧
    0 < Rip.Gen.Consts.tasks_EVENT_CHANNEL_CAPACITY ∧
    0 < Rip.Gen.Consts.continuities_EVENT_CHANNEL_CAPACITY := by decide

/-- the order the emitters had before the repair loses a frame (kept as a checked witness) -/
theorem publish_before_record_loses_a_frame :
    let s := run pubThenLockedRec 1 [.producer, .subscriber, .subscriber, .producer, .producer, .producer]
    complete 1 s = true ∧ output s = [] := Rip.Cex.C06.lost_frame

/-- the task emitter draws the seq inside the critical section that publishes and records the frame:
the per-task seq lock (2) is taken first and released last, around the buffer lock (1) — so with
several emitters on one task stream (stdout and stderr pumps) seq order = publish order = record
order = log order -/
theorem gen_task_emit_seq_critical :
    (Rip.Gen.orderOf 3).head? = some (.lock 2) ∧ (Rip.Gen.orderOf 3).getLast? = some (.unlock 2) ∧
    ((Rip.Gen.orderOf 3).filter (fun e => e == .lock 2 || e == .unlock 2)).length = 2 := by decide

/-! ### several emitters on one stream (the stdout and stderr pumps of one task) -/

/-- **for any number of concurrent emitters, any frame counts and EVERY interleaving** of the effects
of `TaskEmitter::emit` (seq lock, draw, buffer lock, publish, record, release): frames are published
in seq order and recorded in seq order without gap or duplicate, the record is a prefix of the
publication at most one frame behind, and when everybody is done every frame went out exactly once -/
theorem emitters_in_order (counts sched : List Nat) :
    (∃ k, (Rip.Emitters.run true counts sched).published = List.range k) ∧
    (∃ k, (Rip.Emitters.run true counts sched).recorded = List.range k) ∧
    (Rip.Emitters.run true counts sched).recorded <+: (Rip.Emitters.run true counts sched).published ∧
    (Rip.Emitters.run true counts sched).published.length ≤ (Rip.Emitters.run true counts sched).recorded.length + 1 :=
  ⟨Rip.Emitters.published_in_order counts sched, Rip.Emitters.recorded_in_order counts sched,
   Rip.Emitters.recorded_prefix_of_published counts sched⟩

theorem emitters_complete (counts sched : List Nat) (hd : Rip.Emitters.allDone (Rip.Emitters.run true counts sched) = true) :
    (Rip.Emitters.run true counts sched).published = List.range counts.sum ∧
    (Rip.Emitters.run true counts sched).recorded = List.range counts.sum := Rip.Emitters.complete counts sched hd

theorem emitters_can_finish (counts sched : List Nat) :
    ∃ more, Rip.Emitters.allDone (Rip.Emitters.run true counts (sched ++ more)) = true := Rip.Emitters.can_finish counts sched

/-- releasing the seq lock right after the draw inverts the order (why `gen_task_emit_seq_critical` matters) -/
theorem emitters_early_release_inverts : ∃ (counts sched : List Nat),
    (Rip.Emitters.run false counts sched).published = [1, 0] ∧ (Rip.Emitters.run false counts sched).recorded = [1, 0] :=
  Rip.Cex.C06Emitters.early_release_inverts_order

/-! ### a reader rebuilds the sidecar while appenders append (late subscribers) -/

/-- every occurrence of `tok` in an effect order lies inside a `lock n … unlock n` region -/
def insideLock (n : Nat) (tok : Rip.Gen.Eff) (o : List Rip.Gen.Eff) : Bool :=
  (o.foldl (fun (st : Bool × Bool) e =>
      if e == .lock n then (true, st.2)
      else if e == .unlock n then (false, st.2)
      else if e == tok then (st.1, st.2 && st.1) else st) (false, true)).2

/-- **With the rewrite under the seq lock nothing that was broadcast is ever missing from a
readable sidecar** — the history a subscriber attaching now would read — for any number of
appenders and readers, any start (sidecar in step with the log, or unreadable with any content) and
EVERY schedule of their effects. Proof: Rip/Lemmas/Rebuild.lean (invariant over the schedule). -/
theorem late_subscriber_misses_nothing (n : Nat) (sideOk : Bool) (junk apps : List Nat) (readers : Nat)
    (sched : List Nat) :
    Rip.Rebuild.missed (Rip.Rebuild.run true (Rip.Rebuild.init n sideOk junk apps readers) sched) = [] :=
  Rip.Rebuild.no_missed_of_start ⟨n, sideOk, junk, apps, readers, rfl⟩ sched

/-- …and whenever nobody is inside an append or a rewrite, a readable sidecar IS the log -/
theorem sidecar_is_the_log_when_idle (n : Nat) (sideOk : Bool) (junk apps : List Nat) (readers : Nat)
    (sched : List Nat) :
    let s := Rip.Rebuild.run true (Rip.Rebuild.init n sideOk junk apps readers) sched
    s.lock = none → s.sideOk = true → s.side = s.log :=
  Rip.Rebuild.inv_idle (Rip.Rebuild.inv_run n sideOk junk apps readers sched)

/-- the code as it was (log read and rewrite outside the lock): a frame appended and broadcast
between a reader's log read and its rewrite is lost to every later subscriber. Replayed on the real
store by the harness (`reader_rebuild_race_case`) on every run. -/
theorem unlocked_rewrite_loses_a_frame :
    Rip.Rebuild.missed (Rip.Rebuild.run false (Rip.Rebuild.init 3 false [] [1] 1) [1, 1, 0, 0, 0, 0, 0, 1, 1]) = [3] :=
  Rip.Rebuild.missed_unlocked

/-- **obligations over the regenerated source**: `replay_events` tries the cache, takes the seq
lock (3), retries the cache and only then calls the log-reading helper, all before releasing the
lock; the helper reads the log before it rewrites; the only functions that rewrite the sidecar are
that helper and `load_next_seq_for`; and `load_next_seq_for` is only ever reached (token `seqLoad`)
inside the seq lock of an append path. -/
theorem gen_reader_rebuild_locked :
    insideLock 3 .fromLogLocked (Rip.Gen.orderOf 50) = true ∧
    (Rip.Gen.orderOf 50).contains .fromLogLocked = true ∧
    (Rip.Gen.orderOf 50).filter (· == .tryCache) = [.tryCache, .tryCache] ∧
    Rip.Gen.orderOf 51 = [.logRead, .rebuild] ∧
    Rip.Gen.CallGraph.sidecarRebuilders.all (fun h => [6420891449161542399, 5380091558238241133].contains h) = true ∧
    Rip.Gen.CallGraph.sidecarRebuilders.length = 2 ∧
    (Rip.Gen.effectOrders.filter (fun e => e.2.contains .seqLoad)).all (fun e => insideLock 3 .seqLoad e.2) = true ∧
    (Rip.Gen.effectOrders.filter (fun e => e.2.contains .seqLoad)).length ≥ 11 := by decide

end Rip.Props.C06
