/-
C11 — workspace mutations never overlap and are logged in the order they happened.
Property theorems only. Model: Rip/Model/WsLTS.lean. Proofs: Rip/Lemmas/WsLTS.lean.
Witnesses: Rip/Cex/C11.lean. Regenerated fragments: Rip/Gen/EffectOrder.lean (orders 40 run_session,
41 run_openresponses_agent_loop, 42 run_task) and Rip/Gen/LockTable.lean (requires_workspace_lock
and the tool registry), both re-extracted from the current source by ripx on every run.
-/
import Rip.Lemmas.WsLTS
import Rip.Cex.C11
import Rip.Gen.EffectOrder
import Rip.Gen.LockTable
namespace Rip.Props.C11
open Rip.WsLTS

/-- **Mutual exclusion.** For every set of actors (sessions, agent loops, background tasks), every
program of mutating (with or without a runner timeout, attached to a thread or not) and read-only
calls and EVERY interleaving, including runner timeouts at any moment: at most one mutation of the
workspace is in progress at any instant (and never was more than one). -/
theorem mutex (progs : List (List Op)) (sched : List Act) :
    (run true progs sched).running.length ≤ 1 ∧ (run true progs sched).maxRunning ≤ 1 :=
  (inv_run progs sched).mutex

/-- the accounting is exact: an effect in progress is always in `running` (so `mutex` is not
satisfied by under-reporting) … -/
theorem effect_visible (progs : List (List Op)) (sched : List Act) (i : Nat) (a : A) (c l : Bool) (rest : List Op) :
    (run true progs sched).as[i]? = some a → a.prog = .mutate c l :: rest → a.pc = 2 →
    (i, a.opNo) ∈ (run true progs sched).running := (inv_run progs sched).effect_visible

/-- … and whoever mutates holds the permit -/
theorem running_is_holder (progs : List (List Op)) (sched : List Act) (i k : Nat)
    (h : (i, k) ∈ (run true progs sched).running) : (run true progs sched).holder = some i :=
  ((inv_run progs sched).running_mem h).1

/-- **Log order = real order.** The side-effects frames on the thread are, at every moment, a prefix
of the order in which the mutations of attached runs actually began, and the two are equal once
every actor has finished. -/
theorem order_agrees_prefix (progs : List (List Op)) (sched : List Act) :
    (run true progs sched).sideFx <+: (run true progs sched).mutOrder := by
  rw [(inv_run progs sched).pd]
  exact List.prefix_append _ _

theorem order_agrees (progs : List (List Op)) (sched : List Act)
    (hd : allDone (run true progs sched) = true) :
    (run true progs sched).sideFx = (run true progs sched).mutOrder :=
  Rip.WsLTS.order_agrees progs sched hd

/-- exactly one side-effects frame per mutating call of an attached run -/
theorem one_frame_per_call (progs : List (List Op)) (sched : List Act) :
    (run true progs sched).sideFx.Nodup ∧ (run true progs sched).mutOrder.Nodup :=
  Rip.WsLTS.one_frame_per_call progs sched

/-- the frame is logged after the effect has ended and before the permit is released -/
theorem frame_after_effect (progs : List (List Op)) (sched : List Act) (i k : Nat)
    (h : (i, k) ∈ (run true progs sched).sideFx) : (i, k) ∉ (run true progs sched).running :=
  (inv_run progs sched).frame_after_effect h

theorem frame_before_release (progs : List (List Op)) (sched : List Act) (i k : Nat) (a : A)
    (h : (i, k) ∈ (run true progs sched).sideFx) (ha : (run true progs sched).as[i]? = some a)
    (hk : a.opNo = k) : (run true progs sched).holder = some i ∧ 5 ≤ a.pc :=
  (inv_run progs sched).frame_before_release h ha hk

/-- no deadlock: every reachable state can run to completion -/
theorem can_finish (progs : List (List Op)) (sched : List Act) :
    ∃ more, allDone (run true progs (sched ++ more)) = true := by
  obtain ⟨more, h⟩ := (inv_run progs sched).can_finish
  exact ⟨more, by rw [run_append]; exact h⟩

/-- the statement is FALSE of the protocol as it was before the repair (a timed-out command kept
running after the permit was released) — kept as the regression witness -/
theorem mutex_false_without_kill :
    ∃ progs sched, (run false progs sched).maxRunning = 2 :=
  ⟨_, _, Rip.Cex.C11.timed_out_tool_overlaps⟩

/-- non-vacuity: a schedule on which two actors each complete a mutation and both frames are logged -/
example : (run true [[.mutate false true], [.mutate true true]]
    [.step 0, .step 1, .step 0, .step 0, .step 0, .step 0, .step 0,
     .step 1, .step 1, .timeout 1, .step 1, .step 1, .step 1]).sideFx = [(0, 0), (1, 0)] := by decide

/-! ### obligations over the regenerated source tables -/

open Rip.Gen in
/-- scan of an effect order: every tool / process execution happens while the workspace permit
(lock 6) is held, or inside the arm of a `requires_workspace_lock` decision that says no lock is
needed; and never inside the arm of a tool-choice decision that bars the tool -/
def toolsGuarded : List Eff → (held noLock barred : Bool) → Bool
  | [], _, _, _ => true
  | .lock 6 :: r, _, n, b => toolsGuarded r true n b
  | .unlock 6 :: r, _, n, b => toolsGuarded r false n b
  | .brNeedsLock :: r, h, _, b => toolsGuarded r h false b
  | .brNoLock :: r, h, _, b => toolsGuarded r h true b
  | .brBarred :: r, h, n, _ => toolsGuarded r h n true
  | .brAllowed :: r, h, n, _ => toolsGuarded r h n false
  | .brEnd :: r, h, _, _ => toolsGuarded r h false false
  | .runTool :: r, h, n, b => (h || n) && !b && toolsGuarded r h n b
  | .runProcess :: r, h, n, b => h && !b && toolsGuarded r h n b
  | _ :: r, h, n, b => toolsGuarded r h n b

open Rip.Gen in
/-- the side-effects frame is appended inside the same critical section as the tool run it
describes, after the tool's frames were emitted -/
def sideFxInside : List Eff → (held ran emitted : Bool) → Bool
  | [], _, _, _ => true
  | .lock 6 :: r, _, _, _ => sideFxInside r true false false
  | .unlock 6 :: r, _, _, _ => sideFxInside r false false false
  | .runTool :: r, h, _, _ => sideFxInside r h true false
  | .emitBatch :: r, h, ran, _ => sideFxInside r h ran true
  | .sideEffects :: r, h, ran, em => h && ran && em && sideFxInside r h ran em
  | _ :: r, h, ran, em => sideFxInside r h ran em

/-- tool envelopes and checkpoint envelopes of a session (`run_session`) -/
theorem gen_session_tools_guarded :
    toolsGuarded (Rip.Gen.orderOf 40) false false false = true ∧
    sideFxInside (Rip.Gen.orderOf 40) false false false = true ∧
    (Rip.Gen.orderOf 40).contains .sideEffects = true := by decide

/-- the agent loop's tool calls -/
theorem gen_loop_tools_guarded :
    toolsGuarded (Rip.Gen.orderOf 41) false false false = true ∧
    sideFxInside (Rip.Gen.orderOf 41) false false false = true ∧
    (Rip.Gen.orderOf 41).contains .sideEffects = true := by decide

/-- background tasks run their process entirely under the permit -/
theorem gen_task_guarded :
    toolsGuarded (Rip.Gen.orderOf 42) false false false = true ∧
    (Rip.Gen.orderOf 42).contains .runProcess = true := by decide

/-- only the read-only tools (read, ls, grep, artifact_fetch) are exempt from the permit: write,
apply_patch, bash, shell and every name the table does not know take it -/
theorem gen_exempt_are_read_only :
    Rip.Gen.LockTable.exemptFromLock.all (fun t => [1, 2, 3, 4].contains t) = true ∧
    Rip.Gen.LockTable.registered.all (fun t => t < 100) = true ∧
    [5, 6, 7, 8].all (fun t => Rip.Gen.LockTable.registered.contains t → !Rip.Gen.LockTable.exemptFromLock.contains t) = true := by
  decide

end Rip.Props.C11
