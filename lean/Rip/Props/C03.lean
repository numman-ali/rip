/-
C03 — replay fidelity: live frames, log, sidecar and snapshot are the same frames; any frame
survives a write/read round trip. Property theorems only.
Model: Rip/Model/Wire.lean (serde's internally-tagged + flattened wire form as a schema interpreter,
validated against real serde on every run). Proofs: Rip/Lemmas/Wire.lean.
Regenerated fragment: Rip/Gen/EventSchema.lean (every variant, field, alias, serde attribute and
the stream mapping of rip-kernel's EventKind, re-extracted from the source on every run).
-/
import Rip.Lemmas.Wire
import Rip.Driver.C03
import Rip.Gen.EffectOrder
import Rip.Gen.LogEffects
namespace Rip.Props.C03
open Rip.Wire

variable {V : Type} [DecidableEq V]

/-- **The current event schema is well formed** (decided on the regenerated table): tags and legacy
aliases are pairwise distinct across all variants; within each variant the field names and aliases
are distinct and disjoint from the envelope keys (`id, session_id, stream_kind, stream_id,
timestamp_ms, seq`) and from `type`; every `skip_serializing_if` is paired with `default` and sits
on the right kind of field; every variant is assigned to a stream. A change that breaks any of
these (a colliding field name, a skipped field without default, …) fails this obligation. -/
theorem schema_wf : wellFormed Rip.Driver.C03.genSchema = true := by decide

/-- the schema really is the whole event vocabulary (non-vacuity of `schema_wf`) -/
theorem schema_nonempty : 30 ≤ Rip.Driver.C03.genSchema.variants.length ∧
    Rip.Driver.C03.genSchema.readEnvelope.length = 4 := by decide

/-- **Write/read round trip for every well-formed schema and every typed frame**: what was written
can be read back, the frame that comes back is the same variant — hence assigned to the same
stream — and writing it again yields exactly the same object: no field lost or altered.
`_partial`: the one excluded case is an `Option` field with `skip_serializing_if` holding
`Some(null)` (see `roundtrip_full_false`, `roundtrip_exactly_when`). -/
theorem roundtrip_partial (env : Env V) (S : Schema) (derive : Nat → List V → List V) (f : Frame V) (o : Obj V)
    (hwf : wellFormed S = true) (henv : EnvOk env S) (ht : typed S f = true)
    (hc : EnvelopeConsistent S derive f) (he : encode env S f = some o)
    (hsn : ∀ v, S.variants[f.variant]? = some v →
      ∀ p ∈ v.fields.zip f.fields, p.1.skipNone = true → p.2 ≠ .opt (some env.null)) :
    ∃ f', decode env S derive o = some f' ∧ f'.variant = f.variant ∧ encode env S f' = some o :=
  Rip.Wire.roundtrip env S derive f o hwf henv ht hc he hsn

/-- the excluded case is exactly where the full statement fails (necessary and sufficient) -/
theorem roundtrip_exactly_when (env : Env V) (S : Schema) (derive : Nat → List V → List V) (f : Frame V) (o : Obj V)
    (hwf : wellFormed S = true) (henv : EnvOk env S) (ht : typed S f = true)
    (hc : EnvelopeConsistent S derive f) (he : encode env S f = some o) :
    (∃ f', decode env S derive o = some f' ∧ f'.variant = f.variant ∧ encode env S f' = some o) ↔
    (∀ v, S.variants[f.variant]? = some v →
      ∀ p ∈ v.fields.zip f.fields, p.1.skipNone = true → p.2 ≠ .opt (some env.null)) :=
  roundtrip_iff env S derive f o hwf henv ht hc he

/-- the full statement (no exclusion) is false: a checked witness -/
theorem roundtrip_full_false :
    ¬ (∀ (env : Env Nat) (S : Schema) (derive : Nat → List Nat → List Nat) (f : Frame Nat) (o : Obj Nat),
        wellFormed S = true → EnvOk env S → typed S f = true → EnvelopeConsistent S derive f →
        encode env S f = some o →
        ∃ f', decode env S derive o = some f' ∧ f'.variant = f.variant ∧ encode env S f' = some o) :=
  roundtrip_without_hsn_false

/-- unconditionally: one trip normalises (`Some(null)` becomes `None`), the variant (stream) and the
envelope are kept, and from then on the frame is stable -/
theorem roundtrip_stabilises (env : Env V) (S : Schema) (derive : Nat → List V → List V) (f : Frame V) (o : Obj V)
    (hwf : wellFormed S = true) (henv : EnvOk env S) (ht : typed S f = true)
    (hc : EnvelopeConsistent S derive f) (he : encode env S f = some o) :
    decode env S derive o = some (normalise env f) ∧
    (normalise env f).variant = f.variant ∧ (normalise env f).envelope = f.envelope ∧
    ∃ o', encode env S (normalise env f) = some o' ∧ decode env S derive o' = some (normalise env f) :=
  roundtrip_norm env S derive f o hwf henv ht hc he

/-- typed equality: the frame itself comes back unless an Option field holds `Some(null)` -/
theorem roundtrip_typed (env : Env V) (S : Schema) (derive : Nat → List V → List V) (f : Frame V) (o : Obj V)
    (hwf : wellFormed S = true) (henv : EnvOk env S) (ht : typed S f = true)
    (hc : EnvelopeConsistent S derive f) (he : encode env S f = some o)
    (hnn : ∀ fv ∈ f.fields, fv ≠ .opt (some env.null)) :
    decode env S derive o = some f := (roundtrip_typed_iff env S derive f o hwf henv ht hc he).mpr hnn

/-- reading ignores unknown keys and the keys the writer recomputes (stream_kind, stream_id) -/
theorem unknown_keys_ignored (env : Env V) (S : Schema) (derive : Nat → List V → List V) (o extra : Obj V) (f : Frame V)
    (hd : decode env S derive o = some f)
    (hx : ∀ kv ∈ extra, kv.1 ∉ S.readEnvelope ∧ kv.1 ≠ S.tagField ∧
          ∀ v, S.variants[f.variant]? = some v → kv.1 ∉ (v.fields.map fieldKeys).flatten) :
    decode env S derive (o ++ extra) = some f := decode_ignores_unknown env S derive o extra f hd hx

open Rip.Gen in
/-- **a frame a live subscriber received is already in the log and in the per-thread sidecar**: every
continuity append writes the truth log, then the sidecar, and only then publishes (regenerated effect
orders of the eleven append functions) — so at no moment, and after no crash, has a delivered frame
failed to reach the two stored views -/
theorem gen_appends_store_before_publish :
    [10, 11, 12, 13, 14, 15, 16, 17, 18, 19, 20].all (fun id =>
      (orderOf id).filter (fun e => e == .logAppend || e == .cacheAppend || e == .publish)
        == [.logAppend, .cacheAppend, .publish]) = true := by decide

/-- **obligation over the regenerated source**: `EventLog::append` writes the body, the newline and
the flush unconditionally — for every frame kind. (A frame that is handed to subscribers while its
bytes wait in the writer's buffer for some later frame's flush is not reproduced by a replay from
disk, and is lost by a crash although its append had returned.) -/
theorem gen_log_append_writes_unconditionally :
    Rip.Gen.LogEffects.appendWrites = 3 ∧ Rip.Gen.LogEffects.appendWritesUnderACondition = 0 := by decide

end Rip.Props.C03
