/-
C05 — a crash at any write boundary leaves a store that restarts gap-free. Property theorems only.
Model: Rip/Model/Crash.lean (the on-disk state of a thread while frames are appended effect by
effect, process death after any number of effects, reopening, the first write after the restart).
Proofs: Rip/Lemmas/Crash.lean. Witnesses: Rip/Cex/C05.lean. Regenerated fragment:
Rip/Gen/EffectOrder.lean (order 30: EventLog::append is body, newline, flush under its mutex),
Rip/Gen/LogEffects.lean (the three writes are unconditional).
-/
import Rip.Lemmas.Crash
import Rip.Cex.C05
import Rip.Gen.EffectOrder
import Rip.Gen.LogEffects
namespace Rip.Props.C05
open Rip.Crash

/-- **Crash safety** (both repairs on — the code as it is now): after ANY history of acknowledged
appends, a process death after ANY number of file-system effects of ANY further append (small or
larger than the writer's buffer, message or not), a restart and ANY number of further appends:
the log replays and is numbered 0,1,2,… without gap or duplicate; every acknowledged append is
still there, where it was; the interrupted append is there at most once; and from the first
further append on the thread's sidecar equals the log. -/
theorem crash_safe (hist : List Frame) (f : Frame) (k : Nat) (more : List Frame) :
    let d := story true true hist f k more
    GapFree d ∧
    hist.length ≤ d.log.length ∧
    d.log.take hist.length = (List.range hist.length).map some ∧
    d.log.length ≤ hist.length + 1 + more.length ∧
    (more ≠ [] → d.side = List.range d.log.length) := Rip.Crash.crash_safe hist f k more

/-- a crash changes nothing that was acknowledged: every crashed disk extends the disk before it -/
theorem acknowledged_untouched (hist : List Frame) (f : Frame) (k : Nat) :
    let d0 := appendAll hist 0 empty
    let d := partialAppend f hist.length k d0
    d0.log <+: d.log ∧ d0.side <+: d.side ∧ d0.mr <+: d.mr := partialAppend_extends hist f k

/-- the state the theorem starts from is what a history of complete appends really leaves -/
theorem history_shape (hist : List Frame) :
    let d := appendAll hist 0 empty
    d.dangling = none ∧ d.log = (List.range hist.length).map some ∧
      d.side = List.range hist.length ∧ d.mr = mrSeqs hist := by
  intro d
  rw [show d = diskOf hist from appendAll_zero hist]
  exact ⟨rfl, rfl, rfl, rfl⟩

/-- the statement was FALSE before each of the two repairs (regression witnesses) -/
theorem unsafe_before_repairs :
    (∃ (hist : List Frame) (f : Frame) (k : Nat) (more : List Frame),
      ¬ GapFree (story false true hist f k more) ∧ GapFree (story true true hist f k more)) ∧
    (∃ (hist : List Frame) (f : Frame) (k : Nat) (more : List Frame),
      ¬ GapFree (story true false hist f k more) ∧ GapFree (story true true hist f k more)) :=
  ⟨Rip.Cex.C05.duplicate_seq_without_fixE, Rip.Cex.C05.unparseable_without_fixF⟩

/-! ### the caches the restarted authority finds (`_partial`: "reconciled or ignored" is not true
of every cache file; the exact extent is proved, the two gaps are recorded known findings) -/

/-- until the thread is written again its sidecar is a prefix of the log, at most one frame behind -/
theorem stale_window (hist : List Frame) (f : Frame) (k : Nat) :
    let d := story true true hist f k []
    d.side <+: d.log.filterMap id ∧ (d.log.filterMap id).length ≤ d.side.length + 1 :=
  Rip.Crash.stale_window hist f k

/-- the messages+runs sidecar after further appends: correct unless the crash fell between the
sidecar line and the messages+runs line of a message frame — then exactly that frame is missing, for ever -/
theorem mr_reconciled_or_short_partial (hist : List Frame) (f : Frame) (k : Nat) (more : List Frame) (hm : more ≠ []) :
    let d := story true true hist f k more
    let frames := framesInLog hist f k more
    d.log = (List.range frames.length).map some ∧
    (¬ Short f k → d.mr = mrSeqs frames) ∧
    (Short f k → d.mr = (mrSeqs frames).filter (· ≠ hist.length) ∧ d.mr ≠ mrSeqs frames) :=
  mr_reconciled_or_short hist f k more hm

theorem mr_stale_for_ever : ∃ (hist : List Frame) (f : Frame) (k : Nat) (more : List Frame),
    more ≠ [] ∧ (story true true hist f k more).mr ≠ mrSeqs (hist ++ [f] ++ more) ∧
    (story true true hist f k more).log = (List.range (hist.length + 1 + more.length)).map some :=
  Rip.Cex.C05.mr_sidecar_stale_for_ever

/-! ### obligation over the regenerated source -/

open Rip.Gen in
/-- `EventLog::append` writes body, newline, flush — in that order, under its own mutex (the effect
list of the model's log part) -/
theorem gen_log_append_order :
    (orderOf 30).filter (fun e => e == .fsWrite || e == .fsFlush) = [.fsWrite, .fsWrite, .fsFlush] ∧
    (orderOf 30).head? = some (.lock 5) ∧ (orderOf 30).getLast? = some (.unlock 5) := by decide

/-- **obligation over the regenerated source**: `EventLog::append` writes the body, the newline and
the flush unconditionally — for every frame kind. (A frame that is handed to subscribers while its
bytes wait in the writer's buffer for some later frame's flush is not reproduced by a replay from
disk, and is lost by a crash although its append had returned.) -/
theorem gen_log_append_writes_unconditionally :
    Rip.Gen.LogEffects.appendWrites = 3 ∧ Rip.Gen.LogEffects.appendWritesUnderACondition = 0 := by decide

end Rip.Props.C05
