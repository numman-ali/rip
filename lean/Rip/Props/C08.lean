/-
C08 — the compiled context is a pure function of thread truth up to the cut point.
Property theorems only. Model: Rip/Model/Context.lean (cut point, recent messages with replies,
summary checkpoints by halving, strategy and decision — what compile_context_bundle_for_run computes).
Proofs: Rip/Lemmas/Context.lean. Witness: Rip/Cex/C08.lean.
-/
import Rip.Lemmas.Context
import Rip.Cex.C08
import Rip.Lemmas.LogBytes
namespace Rip.Props.C08
open Rip.Context

/-! ### what the bundle contains -/

/-- **exactly the most recent messages, at most the limit, at or before the cut and after the
selected summary checkpoint, oldest first**: the selection is a suffix of the in-range messages (no
newer one is skipped), of length min(limit, available), in thread order -/
theorem recent_messages_exact (evs : List F) (f : Nat) (a : Option Nat) (l : Nat) :
    selectRecent evs f a l <:+ (messages evs).filter (inRange f a) ∧
    (selectRecent evs f a l).length = min l ((messages evs).filter (inRange f a)).length ∧
    (selectRecent evs f a l).Sublist evs :=
  ⟨selectRecent_suffix evs f a l, selectRecent_length evs f a l, selectRecent_sublist evs f a l⟩

theorem recent_messages_in_range (evs : List F) (f : Nat) (a : Option Nat) (l : Nat) (m : F)
    (h : m ∈ selectRecent evs f a l) :
    m ∈ evs ∧ m.isMessage = true ∧ m.seq ≤ f ∧ (∀ x, a = some x → x < m.seq) := selectRecent_mem evs f a l m h

/-- **the cut point** is fixed by the triggering message: at or after it, at or before the head; with a
later message present it is the frame just before that message -/
theorem cut_point (evs : List F) (hv : Valid evs) (anchor : Nat) (c : Nat) (h : cutpoint evs anchor = some c) :
    ∃ m ∈ messages evs, m.id = anchor ∧ m.seq ≤ c ∧ c ≤ max m.seq (headSeq evs) :=
  cutpoint_spec evs hv.increasing anchor c h

theorem cut_point_before_next_message (evs : List F) (hi : Increasing evs) (anchor : Nat) (a n : F) (post : List F)
    (h : (messages evs).dropWhile (fun f => f.id != anchor) = a :: n :: post) :
    a.seq < n.seq ∧ cutpoint evs anchor = some (n.seq - 1) ∧ n.seq - 1 + 1 = n.seq := cutpoint_next evs hi anchor a n post h

theorem unknown_message_refused (evs : List F) (anchor : Nat) :
    cutpoint evs anchor = none ↔ ∀ m ∈ messages evs, m.id ≠ anchor := cutpoint_none_iff evs anchor

/-- **the selected summary references**: at most `maxRefs` cumulative checkpoints, ascending, the last
one the latest available, each at most half the next (halving), and for each to_seq the latest frame -/
theorem summary_hierarchy (cps : List Cp) (n : Nat) :
    (hierarchy cps n).length ≤ n ∧
    (∀ c ∈ hierarchy cps n, c ∈ cps ∧ c.cumulative = true) ∧
    (hierarchy cps n).Pairwise (fun a b => a.toSeq < b.toSeq) ∧
    (hierarchy cps n).Pairwise (fun a b => a.toSeq ≤ b.toSeq / 2) ∧
    (∀ c ∈ hierarchy cps n, ∀ d ∈ cps, d.cumulative = true → d.toSeq = c.toSeq → d.frameSeq ≤ c.frameSeq) :=
  ⟨hierarchy_length cps n, hierarchy_mem cps n, hierarchy_sorted cps n, hierarchy_halves cps n,
   hierarchy_latest_frame cps n⟩

theorem summary_hierarchy_ends_at_latest (cps : List Cp) (n : Nat) (hn : 0 < n) (c : Cp) (hc : c ∈ cps)
    (hcum : c.cumulative = true) : ∃ l, (hierarchy cps n).getLast? = some l ∧ c.toSeq ≤ l.toSeq :=
  hierarchy_last_is_latest cps n hn c hc hcum

/-! ### frames appended after the cut point -/

/-- **FULL statement, for the repaired semantics** (a checkpoint frame appended after the cut is not
eligible): once a later message fixes the cut, whatever is appended afterwards — messages, runs,
checkpoints of any to_seq, anything — leaves bundle and decision unchanged. -/
theorem later_frames_irrelevant (evs later : List F) (hv : Valid (evs ++ later)) (anchor : Nat)
    (hn : HasNext evs anchor) (reply : Nat → Nat) :
    compile true (evs ++ later) anchor reply = compile true evs anchor reply :=
  Rip.Context.later_frames_irrelevant evs later hv.increasing anchor hn reply

/-- **the code as it is** (`to_seq ≤ cut` alone makes a checkpoint eligible): proved for every suffix
that holds no checkpoint frame summarising up to the cut or before — `_partial`; the excluded case is a
recorded known finding … -/
theorem later_frames_irrelevant_partial (evs later : List F) (hv : Valid (evs ++ later)) (anchor : Nat)
    (hn : HasNext evs anchor) (reply : Nat → Nat) (c : Nat) (hc : cutpoint evs anchor = some c)
    (hl : ∀ f ∈ later, ∀ cp t cum a, f.kind = .checkpoint cp t cum a → c < t) :
    compile false (evs ++ later) anchor reply = compile false evs anchor reply :=
  Rip.Context.later_frames_irrelevant_partial evs later hv.increasing anchor hn reply c hc hl

/-- … and the full statement is FALSE of it (checked witness, replayed on the implementation) -/
theorem later_frames_matter_as_is :
    ∃ (evs later : List F) (anchor : Nat),
      Valid (evs ++ later) ∧
      (∃ a n post, (messages evs).dropWhile (fun f => f.id != anchor) = a :: n :: post) ∧
      compile false (evs ++ later) anchor (fun _ => 0) ≠ compile false evs anchor (fun _ => 0) :=
  Rip.Cex.C08.late_checkpoint_changes_result

/-! ### which internal read path produced the input -/

/-- the messages+runs projection (what the `mr` sidecar holds) yields the same messages and replies -/
theorem mr_projection_suffices (evs : List F) (hv : Valid evs) (f : Nat) (a : Option Nat) (l : Nat)
    (reply : Nat → Nat) (sel : List F) :
    selectRecent (evs.filter isMR) f a l = selectRecent evs f a l ∧
    messageItems (evs.filter isMR) f reply sel = messageItems evs f reply sel :=
  ⟨mr_selectRecent evs f a l, mr_messageItems evs hv.increasing f reply sel⟩

/-- a suffix window (tail scan, seekable window) yields the same messages as the whole thread as soon
as it holds `limit` messages in range, or all of them; and the same reply for every message whose
run_ended frame is not before the window -/
theorem window_suffices (pre win : List F) (f : Nat) (a : Option Nat) (l : Nat) :
    (l ≤ ((messages win).filter (inRange f a)).length → selectRecent (pre ++ win) f a l = selectRecent win f a l) ∧
    ((∀ m ∈ messages pre, inRange f a m = false) → selectRecent (pre ++ win) f a l = selectRecent win f a l) :=
  ⟨window_selectRecent pre win f a l, window_selectRecent_all pre win f a l⟩

theorem window_replies (pre win : List F) (hv : Valid (pre ++ win)) (f mid : Nat)
    (h : ∀ x ∈ pre, ∀ s, x.kind ≠ .runEnded mid s) : endedFor (pre ++ win) f mid = endedFor win f mid :=
  window_endedFor pre win hv.increasing f mid h

/-! ### frames whose append is in flight -/

/-- **A frame that is still being written does not exist for a reader**: behind a log of whole
lines, whatever part of the next frame's body is already in the file (no newline yet), the lines a
reader gets — and therefore every reply text, message and checkpoint the compiler reads from the log
— are those of the log before that append began. The real `EventLog::replay` is run on exactly such
files (a parked writer; a body cut at a random byte) by the harness on every run; before the repair
97db05b it failed as a whole there and the compiled context lost its reply texts. -/
theorem inflight_frame_invisible (log frag : Rip.Proto.Bytes)
    (hw : Rip.LogBytes.WholeLines log) (hf : Rip.LogBytes.NoNl frag) :
    Rip.LogBytes.linesOf (log ++ frag) = Rip.LogBytes.linesOf log :=
  Rip.LogBytes.linesOf_inflight log frag hw hf

example : Rip.LogBytes.linesOf ([123, 125, 10] ++ [123, 34, 105]) = [[123, 125]] := by decide

end Rip.Props.C08
