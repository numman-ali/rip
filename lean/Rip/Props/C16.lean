/-
C16 — the tool loop answers each provider call exactly once and never runs a barred tool.
Model: Rip/Model/ToolLoop.lean (ToolCallCollector, ToolChoiceEnforcement,
the request/answer bookkeeping of run_openresponses_agent_loop). Lemmas: Rip/Lemmas/ToolLoop.lean
(the loop results are the fields of `agentLoop_ok`).
Regenerated fragments: Rip/Gen/EffectOrder.lean (41 agent loop with tool-choice branch markers,
43 stream_openresponses_request) and Rip/Gen/Consts.lean (DEFAULT_MAX_TOOL_CALLS).
-/
import Rip.Lemmas.ToolLoop
import Rip.Props.C11
import Rip.Gen.Consts
namespace Rip.Props.C16
open Rip.ToolLoop

/-! ### the collector: which calls a response makes -/

/-- each provider event adds at most one call, and only a function-call `done` event adds one: a
call is never produced twice by one event, and never by deltas or `added` alone -/
theorem one_call_per_done_event (c : Collector) (e : PEv) :
    (c.observe e).completed = c.completed ∨
    (isDoneFn e = true ∧ ∃ x, (c.observe e).completed = c.completed ++ [x]) := observe_completed c e

theorem calls_le_done_events (evs : List PEv) : (collect evs).length ≤ (evs.filter isDoneFn).length := by
  unfold collect
  rw [(drain_spec _).perm.length_eq]
  exact foldl_observe_length evs

/-- a completed call that names its call id and function is never lost (for every reachable collector
state, i.e. after any event history), and carries that call id, name and output index -/
theorem done_call_collected (evs : List PEv) (idx : Nat) (iid : Option Str) (cid n : Str) (a : Option Text)
    (h : nonEmpty iid ≠ none ∨ cid ≠ 0) :
    ∃ x, ((evs.foldl Collector.observe {}).observe (.item true idx true iid (some cid) (some n) a)).completed =
        (evs.foldl Collector.observe {}).completed ++ [x] ∧ x.callId = cid ∧ x.name = n ∧ x.outputIndex = idx :=
  done_collected_reachable evs idx iid cid n a h

/-- the calls are handed to the loop in the provider's output order: a stable sort by output index -/
theorem output_order (c : Collector) :
    (drain c).Perm c.completed ∧ (drain c).Pairwise (fun a b => a.outputIndex ≤ b.outputIndex) ∧
    ∀ k, (drain c).filter (fun x => x.outputIndex == k) = c.completed.filter (fun x => x.outputIndex == k) :=
  ⟨(drain_spec c).perm, (drain_spec c).sorted, (drain_spec c).stable⟩

/-- streamed argument deltas are concatenated in arrival order -/
theorem args_assembled (c : Collector) (i : Str) (hi : i ≠ 0) (idx₀ idx₁ : Nat) (cid n : Str) (hcid : cid ≠ 0)
    (ds : List (Nat × Text)) (cid' n' : Option Str) :
    (((deltaEvents i ds).foldl Collector.observe (c.observe (.item false idx₀ true (some i) (some cid) (some n) none))).observe
        (.item true idx₁ true (some i) cid' n' none)).completed =
      c.completed ++ [{ outputIndex := idx₁, callId := cid'.getD cid, itemId := i, name := n'.getD n,
                        args := (getBuf c.byItem i).args ++ (ds.map (·.2)).flatten }] :=
  Rip.ToolLoop.args_assembled c i hi idx₀ idx₁ cid n hcid ds cid' n'

/-! ### the loop, for every provider script, tool choice, history mode and bound -/

/-- **Answered exactly once, by call id, in the provider's output order, in the very next request**
(previous_response_id mode): the next request's input is exactly one function_call_output per call
of the turn, in order (plus the configured follow-up message) -/
theorem answered_next (cfg : Config) (rs : List Response) (hs : cfg.stateless = false) (i : Nat) (a b : Round)
    (ha : (agentLoop cfg rs).rounds[i]? = some a) (hb : (agentLoop cfg rs).rounds[i+1]? = some b) :
    b.request.input = a.calls.map (fun c => Item.foutput c.callId) ++ msgItems cfg ∧ b.request.hasPrev = true :=
  ((agentLoop_ok cfg rs).chain i a b ha hb).stateful hs

/-- the same in stateless-history mode, where the next input is the previous input extended by the
calls, their answers and the follow-up message -/
theorem answered_next_stateless (cfg : Config) (rs : List Response) (hs : cfg.stateless = true) (i : Nat) (a b : Round)
    (ha : (agentLoop cfg rs).rounds[i]? = some a) (hb : (agentLoop cfg rs).rounds[i+1]? = some b) :
    b.request.input = a.request.input ++ a.calls.map (fun c => Item.fcall c.callId)
        ++ a.calls.map (fun c => Item.foutput c.callId) ++ msgItems cfg ∧ b.request.hasPrev = false :=
  ((agentLoop_ok cfg rs).chain i a b ha hb).stateless hs

/-- **stateless history: each request's input extends the previous one** -/
theorem stateless_extends (cfg : Config) (rs : List Response) (hs : cfg.stateless = true) (i : Nat) (a b : Round)
    (ha : (agentLoop cfg rs).rounds[i]? = some a) (hb : (agentLoop cfg rs).rounds[i+1]? = some b) :
    a.request.input <+: b.request.input := by
  rw [(answered_next_stateless cfg rs hs i a b ha hb).1, List.append_assoc, List.append_assoc]
  exact List.prefix_append _ _

/-- **executed at most once**: a turn that has a successor ran or rejected each of its calls exactly
once, in order; in the last turn what ran comes from a prefix of the calls -/
theorem each_call_once (cfg : Config) (rs : List Response) (i : Nat) (a b : Round)
    (ha : (agentLoop cfg rs).rounds[i]? = some a) (hb : (agentLoop cfg rs).rounds[i+1]? = some b) :
    a.executed = (a.calls.filter (fun c => cfg.enf.allows c.name)).map (fun c => (c.callId, c.name)) ∧
    a.rejected = (a.calls.filter (fun c => !cfg.enf.allows c.name)).map (fun c => (c.callId, c.name)) :=
  have adj := (agentLoop_ok cfg rs).chain i a b ha hb
  ⟨adj.exec, adj.rej⟩

theorem ran_prefix (cfg : Config) (rs : List Response) (a : Round) (ha : a ∈ (agentLoop cfg rs).rounds) :
    ∃ k, a.executed = ((a.calls.take k).filter (fun c => cfg.enf.allows c.name)).map (fun c => (c.callId, c.name)) ∧
         a.rejected = ((a.calls.take k).filter (fun c => !cfg.enf.allows c.name)).map (fun c => (c.callId, c.name)) :=
  ((agentLoop_ok cfg rs).per a ha).2

/-- the calls of a turn are the calls the collector drained from that turn's response -/
theorem calls_are_collected (cfg : Config) (rs : List Response) (i : Nat) (a : Round) (r : Response)
    (ha : (agentLoop cfg rs).rounds[i]? = some a) (hr : rs[i]? = some r) :
    a.calls = [] ∨ a.calls = collect r.events := (agentLoop_ok cfg rs).coll i a r ha hr

/-- **a tool excluded by the configured tool choice is never executed** (`Excluded` is the
specification: none bars everything, a named function bars every other name, an allowed-tools list
bars every name that is not one of its function entries) -/
theorem barred_never_runs (tc : ToolChoice) (cfg : Config) (hc : cfg.enf = tc.enforcement) (rs : List Response)
    (a : Round) (ha : a ∈ (agentLoop cfg rs).rounds) (p : Str × Str) (hp : p ∈ a.executed) : ¬ Excluded tc p.2 :=
  Rip.ToolLoop.barred_never_runs tc cfg hc rs a ha p hp

/-- **the number of tool calls in a run is bounded** (rejections count) -/
theorem bounded (cfg : Config) (rs : List Response) :
    ((agentLoop cfg rs).rounds.map (fun r => r.executed.length + r.rejected.length)).sum ≤ cfg.maxCalls :=
  Rip.ToolLoop.bounded cfg rs

/-- **a request that fails validation is never sent** -/
theorem invalid_never_sent (cfg : Config) (rs : List Response) (a : Round) (ha : a ∈ (agentLoop cfg rs).rounds) :
    cfg.valid a.request = true := Rip.ToolLoop.invalid_never_sent cfg rs a ha

theorem first_request (cfg : Config) (rs : List Response) (a : Round) (ha : (agentLoop cfg rs).rounds[0]? = some a) :
    a.request.input = [.user] ∧ a.request.hasPrev = false := by
  rw [(agentLoop_ok cfg rs).first a ha]
  exact ⟨rfl, rfl⟩

/-! ### obligations over the regenerated source tables -/

/-- in the agent loop no tool runs inside the arm that handles a call barred by the tool choice,
and every tool run is under the workspace permit or in the read-only arm -/
theorem gen_loop_respects_tool_choice :
    Rip.Props.C11.toolsGuarded (Rip.Gen.orderOf 41) false false false = true ∧
    (Rip.Gen.orderOf 41).contains .brBarred = true ∧ (Rip.Gen.orderOf 41).contains .runTool = true := by decide

open Rip.Gen in
/-- `stream_openresponses_request`: the validation gate (`if !payload.errors().is_empty() { …; return Err }`)
comes before the only place a request is sent -/
theorem gen_validation_gate_before_send :
    (orderOf 43).filter (fun e => e == .validateGate || e == .httpSend) = [.validateGate, .httpSend] := by decide

/-- the bound the loop enforces is a positive constant of the current source -/
theorem gen_bound_positive : 0 < Rip.Gen.Consts.provider_openresponses_DEFAULT_MAX_TOOL_CALLS := by decide

end Rip.Props.C16
