/-
C15 — provider stream decoding is lossless and chunking-invariant.
Property theorems only. Model: Rip/Model/Sse.lean, Rip/Model/Utf8.lean.
-/
import Rip.Lemmas.Sse
import Rip.Lemmas.SseChunk
namespace Rip.Props.C15
open Rip.Proto Rip.Sse

/-- **String-level chunk invariance of the SSE decoder**: feeding any list of chunks one after the
other yields the same events and the same decoder state as feeding their concatenation — every
split position, including between CR and LF, inside a field name, inside `[DONE]`. -/
theorem decoder_chunk_invariant (d : Dec) (cs : List Bytes) : d.feedAll cs = d.push cs.flatten :=
  d.feedAll_flatten cs

/-- **Byte-level chunk invariance of the whole pipe.** For every byte string — valid UTF-8 or not —
and every way of splitting it into chunks (inside a multi-byte character, between CR and LF, inside
a field name, byte by byte, with empty chunks), the frames produced by the read loop, the final
counter and the done flag are those of the unsplit body. Proof in Rip/Lemmas/SseChunk.lean: the
UTF-8 carry is characterised by an inductive lossy-decoding relation that composes under
concatenation; two pushes equal one push up to everything after `[DONE]`. -/
theorem bytes_chunk_invariant (δ : Bytes → Option Bytes) (start : Nat) (cs : List Bytes) :
    (feed δ start cs).out = (feed δ start [cs.flatten]).out ∧
    (feed δ start cs).seq = (feed δ start [cs.flatten]).seq ∧
    (feed δ start cs).done = (feed δ start [cs.flatten]).done :=
  Rip.Sse.bytes_chunk_invariant δ start cs

/-- **Exactly one provider frame per server-sent event, in order, payload unchanged** (the terminal
marker and non-JSON payloads included): the provider frames of a mapped event list are the events. -/
theorem one_frame_per_event (δ : Bytes → Option Bytes) (s : Nat) (ps : List Parsed) :
    (mapAll δ s ps).filterMap providerRaw = ps.map (fun p => (p.event, p.raw)) :=
  mapAll_providers δ s ps

/-- **Output text is exactly the concatenation of the provider's text deltas**, in order. -/
theorem text_is_concat (δ : Bytes → Option Bytes) (s : Nat) (ps : List Parsed) :
    (mapAll δ s ps).filterMap textOf = ps.filterMap (fun p => if isDone p then none else δ p.raw) :=
  mapAll_text δ s ps

/-- **Frame numbering continues without gap** from the frames before it, for every body (valid UTF-8
or not) and every chunking: the frames carry seq `start, start+1, …` and the session counter ends
at `start + number of frames`. -/
theorem seq_contiguous (δ : Bytes → Option Bytes) (start : Nat) (cs : List Bytes) :
    (feed δ start cs).out.map seqOf = List.range' start (feed δ start cs).out.length ∧
    (feed δ start cs).seq = start + (feed δ start cs).out.length := by
  obtain ⟨ps, ho, hs⟩ := feed_frames δ start cs
  rw [ho, hs]
  exact ⟨mapAll_seqs δ start ps, rfl⟩

/-! ### non-vacuity: a concrete body split inside a multi-byte character and inside `[DONE]` -/

def body1 : Bytes := [100, 97, 116, 97, 58, 32, 0xC3]          -- "data: " + first byte of "é"
def body2 : Bytes := [0xA9, 10, 10, 100, 97, 116, 97, 58, 91, 68, 79]   -- second byte, blank line, "data:[DO"
def body3 : Bytes := [78, 69, 93, 10, 10]                              -- "NE]\n\n"

example : (feed (fun _ => none) 5 [body1, body2, body3]).out =
    [.provider 5 none [0xC3, 0xA9] false, .provider 6 none doneRaw true] := by decide

example : (feed (fun _ => none) 5 [body1 ++ body2 ++ body3]).out =
    (feed (fun _ => none) 5 [body1, body2, body3]).out := by decide

end Rip.Props.C15
